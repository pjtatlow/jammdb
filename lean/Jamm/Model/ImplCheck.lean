/-
`TxInner::check` (`tx.rs:394`), the database's own consistency check (run by `DB::check` and, in strict
mode, by every commit): a depth-first walk from the root bucket's root page and the free-list page over a
set of not-yet-seen page ids.  Modelled on the decoded page store: the element types of a leaf page are
already validated by the decoder.  Theorem (`Proofs/ImplCheckOwns.lean`): whatever file the independent
checker `checkFile` accepts, this check accepts too.
-/
import Jamm.Model.FileCheck
namespace Jamm

/-- remove each id in turn; `none` as soon as one is not (any more) in the set -/
def removeEach : List Nat → List Nat → Option (List Nat)
  | [], unused => some unused
  | p :: rest, unused => if unused.contains p then removeEach rest (unused.erase p) else none

/-- `last >= key` for consecutive keys is an error: keys must be strictly ascending -/
def strictlyAscending : List Bytes → Bool
  | [] => true
  | [_] => true
  | a :: b :: rest => klt a b && strictlyAscending (b :: rest)

inductive ImplCheckErr where
  | missing (p : Nat)            -- "Page p missing from unused_pages" (reached twice, or out of range)
  | overflowMissing (p : Nat)
  | unreadable (p : Nat)         -- the real code would read outside the map
  | unsorted (p : Nat)
  | wrongFreelist (p : Nat)
  | freelistEntry (p : Nat)
  | badType (p : Nat)
  | unreachable (ps : List Nat)
  | fuel
  deriving Repr, DecidableEq

/-- the `while let Some(page_id) = page_stack.pop()` loop; the head of `stack` is the top -/
def implCheckLoop (pg : PageStore) (flPage : Nat) : Nat → List Nat → List Nat → Except ImplCheckErr (List Nat)
  | 0, _, _ => .error .fuel
  | _ + 1, [], unused => .ok unused
  | fuel + 1, pid :: stack, unused =>
    if !unused.contains pid then .error (.missing pid) else
    match pg pid with
    | none => .error (.unreadable pid)
    | some p =>
      match removeEach ((List.range p.overflow).map (· + pid + 1)) (unused.erase pid) with
      | none => .error (.overflowMissing pid)
      | some unused =>
        match p.body with
        | .branch es =>
          if !strictlyAscending (es.map (·.1)) then .error (.unsorted pid)
          else implCheckLoop pg flPage fuel ((es.map (·.2)).reverse ++ stack) unused
        | .leaf es =>
          if !strictlyAscending (es.map (·.1)) then .error (.unsorted pid)
          else implCheckLoop pg flPage fuel (((subBuckets es).map (·.2.1)).reverse ++ stack) unused
        | .freelist ids =>
          if pid != flPage then .error (.wrongFreelist pid) else
          match removeEach ids unused with
          | none => .error (.freelistEntry pid)
          | some unused => implCheckLoop pg flPage fuel stack unused
        | _ => .error (.badType pid)

/-- `TxInner::check` for the header `mt` -/
def implCheck (mt : MetaRec) (pg : PageStore) : Except ImplCheckErr Unit :=
  match implCheckLoop pg mt.freelistPage (mt.numPages + 2) [mt.freelistPage, mt.rootPage]
      ((List.range (mt.numPages - 2)).map (· + 2)) with
  | .error e => .error e
  | .ok [] => .ok ()
  | .ok rest => .error (.unreachable rest)

end Jamm
