/-
The page writer as an explicit list of (offset, bytes) writes — the form the correspondence run
evaluates against the real bytes (each write must already be what the file holds).  That the recursive writer of
`Encode.lean` is this list applied in order is `writeLeafPage_eq` / `writeBranchPage_eq` (`Proofs/Writes.lean`).
-/
import Jamm.Model.Encode
namespace Jamm

section
variable (L : Layout)

def leafElemWrites (base n : Nat) : List (Bytes × LeafVal) → Nat → Nat → List (Nat × List UInt8)
  | [], _, _ => []
  | (k, v) :: rest, i, doff =>
    let e := base + L.pgPtr + i * L.leafSize
    let vb := v.bytes L
    let pos := (n - i) * L.leafSize + doff
    [(e + L.leafType, [(v.ty L).toUInt8]), (e + L.leafPos, leBytes pos 8), (e + L.leafKsize, leBytes k.length 8),
     (e + L.leafVsize, leBytes vb.length 8), (e + pos, k ++ vb)] ++
    leafElemWrites base n rest (i + 1) (doff + k.length + vb.length)

def branchElemWrites (base n : Nat) : List (Bytes × Nat) → Nat → Nat → List (Nat × List UInt8)
  | [], _, _ => []
  | (k, page) :: rest, i, doff =>
    let e := base + L.pgPtr + i * L.branchSize
    let pos := (n - i) * L.branchSize + doff
    [(e + L.branchPage, leBytes page 8), (e + L.branchKsize, leBytes k.length 8), (e + L.branchPos, leBytes pos 8),
     (e + pos, k)] ++
    branchElemWrites base n rest (i + 1) (doff + k.length)

def headerWrites (base id ty count overflow : Nat) : List (Nat × List UInt8) :=
  [(base + L.pgId, leBytes id 8), (base + L.pgType, [ty.toUInt8]), (base + L.pgCount, leBytes count 8),
   (base + L.pgOverflow, leBytes overflow 8)]

def leafPageWrites (pagesize pid overflow : Nat) (es : List (Bytes × LeafVal)) : List (Nat × List UInt8) :=
  headerWrites L (pid * pagesize) pid L.typeLeaf es.length overflow ++
  leafElemWrites L (pid * pagesize) es.length es 0 0

def branchPageWrites (pagesize pid overflow : Nat) (es : List (Bytes × Nat)) : List (Nat × List UInt8) :=
  headerWrites L (pid * pagesize) pid L.typeBranch es.length overflow ++
  branchElemWrites L (pid * pagesize) es.length es 0 0

def applyWrites (ws : List (Nat × List UInt8)) (s : Src) : Src := ws.foldl (fun s w => s.write w.1 w.2) s

/-- the source already holds the bytes of the write: `Src.HasAt` as a `Bool` (`Src.holds_iff`, `Proofs/Writes.lean`) -/
def Src.holds (s : Src) (w : Nat × List UInt8) : Bool := s.bytes w.1 w.2.length == w.2

end
end Jamm
