/-
Layer C, tightness: no gap between the routing lower bound of an off-spine branch and its first key.

`WFS` (Model/CommitInv.lean) only demands `lo ≤ first key` for a branch with routing lower bound `lo`.
A `put` of a key in the gap `[lo, first key)` is routed to the branch's first child and lands *below* the
branch's first key, which breaks `WFS` (`put_wfs_false` in CommitEdits.lean).  Leaf edits keep
`WFS` on *tight* trees, and keep tightness.  `rebalance` keeps `WFS` but not tightness (removing an empty
first child opens a gap); `spill` re-keys every rewritten node by its first key.

Executable versions `tightB` / `tightFB` (soundness in Proofs/CommitInvLemmas.lean).  `TightMT` is the form that
holds in the middle of a commit: tightness is demanded only of pages the transaction has not
materialised (every materialised node is re-keyed by `spill`).
-/
import Jamm.Model.CommitInv
set_option linter.unusedSectionVars false
open Std

namespace Jamm

section
variable {K E : Type} [Ord K]

/-- the first key `k` of a branch with routing lower bound `lo` is not above `lo` -/
def tightKey (lo : Option K) (k : K) : Prop := match lo with | none => True | some l => kle k l = true

mutual
/-- every branch off the leftmost spine has a first key that is not above the branch's routing lower
bound (together with `WFS`: equal to it) -/
inductive TightT : Option K → Tree K E → Prop where
  | leaf (lo : Option K) (p : Nat) (es : List (K × E)) : TightT lo (.leaf p es)
  | emptyBranch (lo : Option K) (p : Nat) : TightT lo (.branch p .nil)
  | branch (lo : Option K) (p : Nat) (k : K) (t : Tree K E) (rest : Forest K E) :
      tightKey lo k → TightF (sepLo lo k) k t rest → TightT lo (.branch p (.cons k t rest))
/-- `TightF lo k t rest`: the entry `(k, t)` whose routing lower bound is `lo`, followed by `rest` (the
bounds are threaded exactly as in `WFFS`) -/
inductive TightF : Option K → K → Tree K E → Forest K E → Prop where
  | last (lo : Option K) (k : K) (t : Tree K E) : TightT lo t → TightF lo k t .nil
  | cons (lo : Option K) (k : K) (t : Tree K E) (k' : K) (t' : Tree K E) (rest : Forest K E) :
      TightT lo t → TightF (some k') k' t' rest → TightF lo k t (.cons k' t' rest)
end

/-- executable `tightKey` -/
def tightKeyB (lo : Option K) (k : K) : Bool := match lo with | none => true | some l => kle k l

mutual
/-- executable `TightT` -/
def tightB (lo : Option K) : Tree K E → Bool
  | .leaf _ _ => true
  | .branch _ kids =>
    match kids with
    | .nil => true
    | .cons k t rest => tightKeyB lo k && tightFB (sepLo lo k) (.cons k t rest)
/-- executable `TightF` (on the whole entry list; `false` on the empty list, which `tightB` never passes) -/
def tightFB (lo : Option K) : Forest K E → Bool
  | .nil => false
  | .cons _ t .nil => tightB lo t
  | .cons _ t (.cons k' t' rest) => tightB lo t && tightFB (some k') (.cons k' t' rest)
end

/-- `TightF` stated on a whole entry list -/
def TightForest (lo : Option K) : Forest K E → Prop
  | .nil => False
  | .cons k t rest => TightF lo k t rest


mutual
/-- tightness below and at every page the transaction has not materialised; a materialised branch only
passes the demand on to its children -/
inductive TightMT : Option K → Tree K E → Prop where
  | leaf (lo : Option K) (p : Nat) (es : List (K × E)) : TightMT lo (.leaf p es)
  | unmat (lo : Option K) (p : Nat) (kids : Forest K E) :
      nodeMat p = false → TightT lo (.branch p kids) → TightMT lo (.branch p kids)
  | emptyBranch (lo : Option K) (p : Nat) : TightMT lo (.branch p .nil)
  | branch (lo : Option K) (p : Nat) (k : K) (t : Tree K E) (rest : Forest K E) :
      nodeMat p = true → TightMF (sepLo lo k) k t rest → TightMT lo (.branch p (.cons k t rest))
inductive TightMF : Option K → K → Tree K E → Forest K E → Prop where
  | last (lo : Option K) (k : K) (t : Tree K E) : TightMT lo t → TightMF lo k t .nil
  | cons (lo : Option K) (k : K) (t : Tree K E) (k' : K) (t' : Tree K E) (rest : Forest K E) :
      TightMT lo t → TightMF (some k') k' t' rest → TightMF lo k t (.cons k' t' rest)
end

mutual
/-- executable `TightMT` -/
def tightMB (lo : Option K) : Tree K E → Bool
  | .leaf _ _ => true
  | .branch p kids =>
    if !nodeMat p then tightB lo (.branch p kids) else
    match kids with
    | .nil => true
    | .cons k t rest => tightMFB (sepLo lo k) (.cons k t rest)
def tightMFB (lo : Option K) : Forest K E → Bool
  | .nil => false
  | .cons _ t .nil => tightMB lo t
  | .cons _ t (.cons k' t' rest) => tightMB lo t && tightMFB (some k') (.cons k' t' rest)
end

end
end Jamm
