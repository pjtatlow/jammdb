/-
Key order.  Keys are byte strings compared as Rust's `<[u8] as Ord>::cmp` (lexicographic, unsigned,
a proper prefix is smaller).  The model is written over any key type `K` with a lawful total
`compare`; `Bytes := List UInt8` with core's lexicographic instance is the instance the driver uses.
-/
import Std
open Std

namespace Jamm

abbrev Bytes := List UInt8

section
variable {K : Type} [Ord K]

/-- strict "less than" as a Bool -/
@[inline] def klt (a b : K) : Bool := compare a b == .lt
/-- "less or equal" as a Bool -/
@[inline] def kle (a b : K) : Bool := compare a b != .gt

end

section
variable {K : Type} [Ord K]

theorem klt_iff {a b : K} : klt a b = true ↔ compare a b = .lt := by
  simp [klt]

theorem kle_iff {a b : K} : kle a b = true ↔ (compare a b).isLE = true := by
  unfold kle; cases compare a b <;> decide

end

section lemmas
variable {K : Type} [Ord K] [TransOrd K] [LawfulEqOrd K]

omit [TransOrd K] in
theorem klt_irrefl (a : K) : klt a a = false := by
  simp [klt, ReflCmp.compare_self]

omit [LawfulEqOrd K] in
theorem klt_trans {a b c : K} (h1 : klt a b = true) (h2 : klt b c = true) : klt a c = true := by
  rw [klt_iff] at *; exact TransCmp.lt_trans h1 h2

omit [LawfulEqOrd K] in
theorem klt_asymm {a b : K} (h : klt a b = true) : klt b a = false := by
  rw [klt_iff] at h
  have : compare b a = .gt := OrientedCmp.gt_iff_lt.mpr h
  simp [klt, this]

theorem klt_trichotomy (a b : K) : klt a b = true ∨ a = b ∨ klt b a = true := by
  cases h : compare a b with
  | lt => left; simp [klt, h]
  | eq => right; left; exact compare_eq_iff_eq.mp h
  | gt => right; right; rw [klt_iff]; exact OrientedCmp.gt_iff_lt.mp h

theorem klt_of_not_klt_of_ne {a b : K} (h : klt a b = false) (hne : a ≠ b) : klt b a = true := by
  rcases klt_trichotomy a b with h1 | h1 | h1
  · rw [h] at h1; exact absurd h1 Bool.false_ne_true
  · exact absurd h1 hne
  · exact h1

omit [LawfulEqOrd K] in
theorem kle_eq_not_klt {a b : K} : kle a b = !klt b a := by
  unfold kle klt
  rw [OrientedCmp.eq_swap (cmp := compare) (a := b) (b := a)]
  cases compare a b <;> rfl

theorem klt_of_kle_of_ne {a b : K} (h : kle a b = true) (hne : b ≠ a) : klt a b = true :=
  klt_of_not_klt_of_ne (by rw [kle_eq_not_klt] at h; simpa using h) hne

omit [LawfulEqOrd K] in
theorem klt_of_klt_of_kle {a b c : K} (h1 : klt a b = true) (h2 : kle b c = true) : klt a c = true :=
  klt_iff.mpr (TransCmp.lt_of_lt_of_isLE (klt_iff.mp h1) (kle_iff.mp h2))

set_option linter.unusedSectionVars false in
theorem klt_of_kle_of_klt {a b c : K} (h1 : kle a b = true) (h2 : klt b c = true) : klt a c = true :=
  klt_iff.mpr (TransCmp.lt_of_isLE_of_lt (kle_iff.mp h1) (klt_iff.mp h2))

theorem kle_refl (a : K) : kle a a = true := by
  rw [kle_eq_not_klt, klt_irrefl]; rfl

omit [LawfulEqOrd K] in
theorem kle_of_klt {a b : K} (h : klt a b = true) : kle a b = true := by
  rw [kle_eq_not_klt, klt_asymm h]; rfl

omit [LawfulEqOrd K] in
theorem kle_of_not_klt {a b : K} (h : klt a b = false) : kle b a = true := by
  rw [kle_eq_not_klt, h]; rfl

omit [LawfulEqOrd K] in
theorem kle_trans {a b c : K} (h1 : kle a b = true) (h2 : kle b c = true) : kle a c = true :=
  kle_iff.mpr (TransCmp.isLE_trans (kle_iff.mp h1) (kle_iff.mp h2))

theorem eq_of_kle_of_kle {a b : K} (h1 : kle a b = true) (h2 : kle b a = true) : a = b :=
  compare_eq_iff_eq.mp (OrientedCmp.isLE_antisymm (kle_iff.mp h1) (kle_iff.mp h2))

omit [TransOrd K] in
theorem klt_ne {a b : K} (h : klt a b = true) : a ≠ b := by
  intro e; subst e; rw [klt_irrefl] at h; exact Bool.false_ne_true h

end lemmas
end Jamm
