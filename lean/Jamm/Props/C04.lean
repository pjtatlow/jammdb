/-
C04 — snapshot isolation holds under every thread schedule.

Model (`Jamm/Model/Conc.lean`): the sequential release protocol with the writer's begin and commit as
separate events, readers registering and leaving in between on other threads.  A reader's begin is one
atomic event exactly when the header is read inside the reader-list critical section in which the
reader registers (and the writer decides what to release) — the obligation
`begin_registers_atomically`, decided on the step order regenerated from `Tx::new` on every run; it
failed for the pinned release (D10) and holds after the `fix:` commit.
Proved for every trace of atomic events, any number of readers and any interleaving:
* the accounting invariant holds in every reachable state (`invariant_under_interleaving`);
* when the open writer commits, no page of any registered reader's snapshot is free or written,
  however readers registered and left between the writer's begin and its commit
  (`readers_isolated_under_interleaving`) — so a reader observes exactly the state it registered;
* a writer starts from the newest committed snapshot and excludes other writers
  (`writer_starts_from_newest`), so a reader that begins after a commit returned registers a snapshot
  at least that new (the header it reads is the newest valid one: C12 `newest_wins`);
* `nonatomic_begin_is_unsafe`: with header read and registration as two steps, two commits in between
  write a page of the snapshot the reader has chosen (the machine-checked witness of D10).
Assumptions: a mutex-protected critical section is atomic with respect to other holders of that mutex;
a header slot is read atomically (A-hdr).
-/
import Jamm.Proofs.ConcLemmas
import Jamm.Gen.Steps

namespace Jamm.Props.C04

theorem begin_registers_atomically : BeginRegistersAtomically Gen.beginSteps = true := by decide

-- `hch` is not used: atomic events never read `choosing`
theorem invariant_under_interleaving (s : Sys2) (evs : List Ev2) (s' : Sys2) (hi : s.base.invB = true)
    (hw : s.writer = none) (hch : s.choosing = []) (hat : evs.all Ev2.atomic = true)
    (h : s.run evs = some s') : s'.base.invB = true :=
  Sys2.invB_run s evs s' hi hw hat h

-- `hch` is not used: atomic events never read `choosing`
theorem readers_isolated_under_interleaving (s : Sys2) (evs : List Ev2) (s' : Sys2) (hi : s.base.invB = true)
    (hw : s.writer = none) (hch : s.choosing = []) (hat : evs.all Ev2.atomic = true)
    (h : s.run evs = some s') (w : WriterTx) (hen : s'.enabledB (.commitW w) = true) :
    s'.readersSafeB w = true :=
  readers_safe_run s evs s' hi hw hat h w hen

theorem writer_starts_from_newest (s : Sys2) (h : s.enabledB .beginW = true) :
    ((s.step .beginW).writer.map (·.txId)) = some (s.cur.txId + 1) ∧ (s.step .beginW).enabledB .beginW = false :=
  Jamm.writer_starts_from_newest s h

/-- a registered reader's snapshot is a value no event changes -/
theorem reader_snapshot_is_a_value (s : Sys2) (w : WriterTx) (t : TxFL) (hw : s.writer = some t) :
    (s.step (.commitW w)).readers = s.readers ∧ (s.step .beginW).readers = s.readers ∧ (s.step .dropW).readers = s.readers := by
  simp [Sys2.step, hw]

theorem nonatomic_begin_is_unsafe :
    ((d10Init.run (d10Trace.take 4)).map (fun s =>
      (s.choosing.map (·.reach), s.writes { freed := [2], requests := [1, 1] }))) = some ([[2, 3]], [3, 5]) := by
  decide

/-- the pinned order (header read before the reader-list lock) does not satisfy the obligation -/
theorem pinned_begin_not_atomic :
    BeginRegistersAtomically [.lockTx, .cloneFreelist, .readMeta, .lockReaders, .releaseOrRegister, .unlockReaders, .cloneMap] = false := by
  decide

end Jamm.Props.C04
