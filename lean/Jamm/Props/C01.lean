/-
C01 — committed data reads back exactly as a reference ordered map would.

Property theorems only (helper lemmas live in `Jamm/Proofs`).  The reference is `Jamm.Spec`; this
file states what is proved about it and about the model of the code, layer by layer.
-/
import Jamm.Proofs.SpecLemmas
import Jamm.Proofs.TxLemmas
import Jamm.Proofs.CursorSearch
import Jamm.Proofs.FileCheckLemmas
import Jamm.Proofs.CommitCompose
import Jamm.Proofs.EncodeTreeLemmas
import Jamm.Proofs.TreeDBLemmas
import Jamm.Proofs.EncodeViewLemmas
import Jamm.Proofs.FileDBLemmas
import Jamm.Proofs.TreeDBCommit
import Jamm.Proofs.EndToEnd
import Jamm.Proofs.CommitEdits
import Jamm.Gen.Layout
import Jamm.Proofs.GenLayout
import Jamm.Gen.HashOrder
open Std

namespace Jamm.Props.C01
open Spec
variable {K : Type} [Ord K] [TransOrd K] [LawfulEqOrd K] [DecidableEq K] {α : Type}

/-! ## The reference is an ordered map (so "ascending byte order" and "the value last written" mean
what they say). -/

theorem ref_insert_sorted (k : K) (x : α) (l : List (K × α)) (h : Sorted l) : Sorted (Spec.insert k x l) :=
  sorted_insert k x l h

-- `[TransOrd K] [LawfulEqOrd K]` of the file's context are arguments of this statement and are not used
set_option linter.unusedSectionVars false in
theorem ref_lookup_insert (k k' : K) (x : α) (l : List (K × α)) :
    lookup k' (Spec.insert k x l) = if k' = k then some x else lookup k' l :=
  lookup_insert k k' x l

-- `[LawfulEqOrd K]` of the file's context is an argument of this statement and is not used
/-- erasing keeps the order, removes exactly that key -/
theorem ref_erase_sorted (k : K) (l : List (K × α)) (h : Sorted l) : Sorted (erase k l) :=
  sorted_erase k l h

theorem ref_lookup_erase (k k' : K) (l : List (K × α)) (h : Sorted l) :
    lookup k' (erase k l) = if k' = k then none else lookup k' l :=
  lookup_erase k k' l h

/-! ## The model of the code's reads and in-transaction writes refines the reference, per bucket.
`WF none none t` is what the verified checker `wfb` establishes on the real file after every commit
(C05) and what edits preserve (C07). -/

/-- `Bucket::get` on any well-formed tree returns what the reference returns on the tree's contents -/
theorem get_refines (t : Tree K α) (h : WF none none t) (key : K) :
    t.lookup key = (lookup key t.flatten).map (fun e => (key, e)) :=
  lookup_spec none none t h key

-- `[LawfulEqOrd K] [DecidableEq K]` of the file's context are arguments of this statement and are not used
set_option linter.unusedSectionVars false in
/-- a full scan returns the reference's items, which are in strictly ascending key order -/
theorem scan_refines (t : Tree K α) (h : WF none none t) (n : Nat) (hn : t.flatten.length < n) :
    (Cursor.drain n { root := t }).1 = t.flatten ∧ Sorted t.flatten :=
  ⟨drain_fresh t h.shp n hn, flatten_sorted none none t h⟩

/-- `put` / `delete` (and the leaf edits of bucket creation / deletion) refine the reference's
insert / erase, for any sequence of them -/
theorem edits_refine (t : Tree K α) (h : WF none none t) (ops : List (TxOp K α)) :
    (ops.foldl Tree.applyOp t).flatten = ops.foldl Spec.applyOp t.flatten ∧
    WF none none (ops.foldl Tree.applyOp t) :=
  applyOps_spec t h ops

/-- a tree accepted by the executable checker (run on the real bytes after every commit) is
well-formed, so the three theorems above apply to what the code actually wrote -/
theorem checked_file_tree_wf (t : Tree K α) (h : wfb none none t = true) : WF none none t :=
  wfb_sound none none t h

example : Sorted (Spec.insert (2 : Nat) "b" [(1, "a"), (3, "c")]) ∧
    lookup 2 (Spec.insert (2 : Nat) "b" [(1, "a"), (3, "c")]) = some "b" := by
  decide

/-! ## Layer C: commit.  The model of one bucket's commit is `commitTree`: the replay of the steps that
the real `rebalance` reports (any list of steps is covered), then `spill` (functional, no oracle).  The
correspondence run checks on every commit that this model predicts the exact shape of the tree the
real code wrote; the theorems say that such a commit cannot change what the bucket contains and keeps
the invariant under which the reads above are correct. -/

/-- commit does not change the contents of a bucket: for every list of rebalance steps, every list of
touched header keys, every page size, every split threshold -/
theorem commit_preserves_contents (p : Params) (pagesize hdr leafHdr branchHdr bmSize : Nat)
    (steps : List RbStep) (touched : List Bytes) (t : Tree Bytes Ent) (h : TreeInv t) :
    (commitTree p pagesize hdr leafHdr branchHdr (entSize bmSize) steps touched t).flatten = t.flatten := by
  exact h.commitTree_flatten p pagesize hdr leafHdr branchHdr (entSize bmSize) steps touched

/-- the tree invariant (separators bound their subtrees, no routing gap, uniform depth) holds after
every edit of a transaction and after its commit, hence — by induction — at every point of every
history of transactions -/
theorem invariant_through_edits (t : Tree K α) (h : TreeInv t) (ops : List (TxOp K α)) :
    TreeInv (ops.foldl Tree.applyOp t) :=
  applyOps_inv t h ops

theorem invariant_through_commit (p : Params) (hp : p.Valid) (h2 : 2 ≤ p.minKeysPerNode)
    (pagesize hdr leafHdr branchHdr bmSize : Nat) (steps : List RbStep) (touched : List Bytes)
    (t : Tree Bytes Ent) (h : TreeInv t) :
    TreeInv (commitTree p pagesize hdr leafHdr branchHdr (entSize bmSize) steps touched t) :=
  commitTree_inv p pagesize hdr leafHdr branchHdr (entSize bmSize) hp h2 steps touched t h

-- `[DecidableEq K]` of the file's context is an argument of this statement and is not used
set_option linter.unusedSectionVars false in
/-- a tree with the invariant AND no childless branch (`nebT`) is well-formed for routing, so
`get_refines`, `scan_refines` and `edits_refine` apply to it.  `nebT` is kept by every edit
(`edits_keep_invariant_and_wellformedness`) and by `spill`; a replay of `rebalance` steps can break it only in
the middle (a branch emptied by a merge that later steps remove), so for commit it is a hypothesis on the
rebalanced tree (`commit_gives_wellformed_tree`), evaluated by the run on every real replay -/
theorem invariant_gives_wf (t : Tree K α) (h : TreeInv t) (hne : nebT t = true) : WF none none t :=
  wfs_wf none none t h.sep hne

/-- without tightness the separator invariant alone is *not* kept by `put` (why `TreeInv` has the
field `tight`) -/
theorem sep_alone_not_inductive :
    ¬ (∀ (lo hi : Option Nat) (t : Tree Nat Unit), WFS lo hi t → ∀ (key : Nat) (e : Unit),
        inLo lo key → inHi hi key → WFS lo hi (t.put key e)) :=
  put_wfs_false

/-- non-vacuity: a two-level tree with a nested-bucket entry satisfies the invariant's executable form -/
example : wfsb (K := Nat) (E := Nat) none none
      (.branch 5 (.cons 10 (.leaf 6 [(3, 0), (10, 1)]) (.cons 20 (.leaf 7 [(20, 5)]) .nil))) = true ∧
    tightB (K := Nat) (E := Nat) none
      (.branch 5 (.cons 10 (.leaf 6 [(3, 0), (10, 1)]) (.cons 20 (.leaf 7 [(20, 5)]) .nil))) = true := by
  decide

/-! ## Layer S, writing: a tree written node by node to its pages (the model of `Page::write_node`, tied to the
real writer byte for byte on every commit) reads back, by unfolding from the root page, as exactly the same
tree — so what a commit writes is what the next transaction (same process or after reopen) reads. -/

theorem written_tree_reads_back (pagesize : Nat) (hhdr : Gen.layout.pageSize ≤ pagesize) (ov : Nat → Nat)
    (t : Tree Bytes LeafVal) (s : Src)
    (hfit : nodesFit Gen.layout pagesize ov s.size t = true)
    (hdisj : (nodeRunsT ov t).Pairwise runsDisjoint)
    (fuel : Nat) (hfuel : t.nodes ≤ fuel) :
    unfoldT (pageStoreOf Gen.layout pagesize (writeTreeT Gen.layout pagesize ov t s)) fuel t.pid = some t :=
  unfold_writeTree Gen.layout pagesize genLayout_wfEnc hhdr ov t s hfit hdisj fuel hfuel

/-- … and writing it disturbs no byte outside the runs of its own nodes (other buckets, the snapshot a reader
holds, the other header) -/
theorem written_tree_is_local (pagesize : Nat) (ov : Nat → Nat) (t : Tree Bytes LeafVal) (s : Src) (i : Nat)
    (hfit : nodesFit Gen.layout pagesize ov s.size t = true)
    (h : ∀ r ∈ nodeRunsT ov t, i < r.1 * pagesize ∨ (r.1 + r.2 + 1) * pagesize ≤ i) :
    (writeTreeT Gen.layout pagesize ov t s).get i = s.get i :=
  writeTree_frame Gen.layout pagesize genLayout_wfEnc ov t s i hfit h

/-! ## The API layer: the database as the code holds it — every bucket a B+tree, the public operations the
control flow of `bucket.rs` over the tree operations (`Model/TreeDB.lean`) — refines the reference nested
ordered map: same return values and error kinds, same contents, counters and bucket structure, at every
nesting depth, for every sequence of operations; and a commit that rewrites every bucket's tree without
changing its contents (which `commit_preserves_contents` says of the commit model) is invisible. -/

/-- every write operation returns what the reference returns and leaves the reference's state -/
theorem api_put_refines (db : TDB.DB K α) (h : TDB.AllWF db) (p : Spec.Path K) (k : K) (v : α) :
    (TDB.put db p k v).1 = (Spec.put (TDB.abs db) p k v).1 ∧
    TDB.abs (TDB.put db p k v).2 = (Spec.put (TDB.abs db) p k v).2 ∧ TDB.AllWF (TDB.put db p k v).2 :=
  have hr := TDB.put_refines db h p k v
  ⟨hr.1, hr.2, TDB.applyOp_wf h (.put p k v)⟩

theorem api_delete_refines (db : TDB.DB K α) (h : TDB.AllWF db) (p : Spec.Path K) (k : K) :
    (TDB.delete db p k).1 = (Spec.delete (TDB.abs db) p k).1 ∧
    TDB.abs (TDB.delete db p k).2 = (Spec.delete (TDB.abs db) p k).2 ∧ TDB.AllWF (TDB.delete db p k).2 :=
  have hr := TDB.delete_refines db h p k
  ⟨hr.1, hr.2, TDB.applyOp_wf h (.delete p k)⟩

theorem api_bucket_getter_refines (db : TDB.DB K α) (h : TDB.AllWF db) (p : Spec.Path K) (name : K) (s m : Bool) :
    (TDB.bucketGetter db p name s m).1 = (Spec.bucketGetter (TDB.abs db) p name s m).1 ∧
    TDB.abs (TDB.bucketGetter db p name s m).2 = (Spec.bucketGetter (TDB.abs db) p name s m).2 ∧
    TDB.AllWF (TDB.bucketGetter db p name s m).2 :=
  have hr := TDB.bucketGetter_refines db h p name s m
  ⟨hr.1, hr.2, TDB.applyOp_wf h (.getter p name s m)⟩

theorem api_delete_bucket_refines (db : TDB.DB K α) (h : TDB.AllWF db) (p : Spec.Path K) (name : K) :
    (TDB.deleteBucket db p name).1 = (Spec.deleteBucket (TDB.abs db) p name).1 ∧
    TDB.abs (TDB.deleteBucket db p name).2 = (Spec.deleteBucket (TDB.abs db) p name).2 ∧
    TDB.AllWF (TDB.deleteBucket db p name).2 :=
  have hr := TDB.deleteBucket_refines db h p name
  ⟨hr.1, hr.2, TDB.applyOp_wf h (.deleteBucket p name)⟩

-- `TDB.` is needed: in this namespace the bare `get_refines` / `scan_refines` are the per-tree theorems above
theorem api_reads_refine (db : TDB.DB K α) (h : TDB.AllWF db) (p : Spec.Path K) (k : K) :
    TDB.get db p k = Spec.get (TDB.abs db) p k ∧ TDB.nextInt db p = Spec.nextInt (TDB.abs db) p ∧
    TDB.scan db p = Spec.scan (TDB.abs db) p :=
  ⟨TDB.get_refines db h p k, TDB.nextInt_refines db p, TDB.scan_refines db p⟩

theorem api_history_refines (db : TDB.DB K α) (h : TDB.AllWF db) (ops : List (TDB.Op K α)) :
    TDB.abs (ops.foldl TDB.applyOp db) = ops.foldl Spec.applyTOp (TDB.abs db) ∧
    TDB.AllWF (ops.foldl TDB.applyOp db) :=
  TDB.applyOps_refines db h ops

-- the four instances of the file's context are arguments of this statement and are not used
set_option linter.unusedSectionVars false in
/-- commit is invisible in the reference when it keeps each bucket's contents -/
theorem api_commit_invisible (f : Spec.Path K → Tree K (Spec.Item α) → Tree K (Spec.Item α)) (db : TDB.DB K α)
    (hf : ∀ e ∈ db, (f e.1 e.2.tree).flatten = e.2.tree.flatten) :
    TDB.abs (TDB.commitWith f db) = TDB.abs db :=
  TDB.commitWith_invisible f db hf

/-- a whole database — every bucket at every nesting depth — written to pages (each tree node at its own run,
bucket entries naming the root page and counter of the bucket below) is read back, from the root page, as
exactly the same database: what a commit writes is what a later transaction, or a reopen, sees -/
theorem written_database_reads_back (pagesize : Nat) (hhdr : Gen.layout.pageSize ≤ pagesize) (ov : Nat → Nat)
    (v : BucketView) (s : Src) (hok : ViewOK v)
    (hfit : v.fits Gen.layout pagesize ov s.size)
    (hdisj : (v.allRuns ov).Pairwise runsDisjoint)
    (fuel : Nat) (hfuel : v.weight ≤ fuel) :
    viewBucket (pageStoreOf Gen.layout pagesize (writeView Gen.layout pagesize ov v s)) fuel v.tree.pid v.nextInt =
      .ok v :=
  viewBucket_writeView Gen.layout pagesize genLayout_wfEnc hhdr ov v s hok hfit hdisj fuel hfuel

/-- the state read from a file that the checker accepts is an API-layer database all of whose trees are
well-formed, with the header's counter at the root: every `api_*` theorem above applies to it -/
theorem checked_file_is_a_wellformed_database (mt : MetaRec) (pg : PageStore) (fileSize pagesize : Nat)
    (sum : FileSummary) (h : checkFile mt pg fileSize pagesize = .ok sum) :
    TDB.AllWF (viewToTDB [] sum.root) ∧
    TDB.getBucket (viewToTDB [] sum.root) [] = some { nextInt := mt.nextInt, tree := sum.root.tree.mapE itemOf } := by
  obtain ⟨hg, hn, _⟩ := checkFile_ok h
  refine ⟨goodView_allWF pg hg [], ?_⟩
  rw [viewToTDB_eq, ← hn]
  exact TDB.getBucket_cons_self ..

/-! ## Whole histories, values included.  `commitTree` is polymorphic in the payload; applied to the API-layer
database (trees carrying the real values and bucket markers) it gives `TDB.commitDB`. -/

theorem edits_keep_invariant_and_wellformedness (t : Tree K α) (h : TreeInv t) (hn : nebT t = true)
    (ops : List (TxOp K α)) :
    TreeInv (ops.foldl Tree.applyOp t) ∧ nebT (ops.foldl Tree.applyOp t) = true ∧
    WF none none (ops.foldl Tree.applyOp t) :=
  applyOps_inv_neb t h hn ops

theorem commit_gives_wellformed_tree {E : Type} (p : Params) (hp : p.Valid) (h2 : 2 ≤ p.minKeysPerNode)
    (pagesize hdr leafHdr branchHdr : Nat) (esz : Bytes × E → Nat) (steps : List RbStep) (touched : List Bytes)
    (t : Tree Bytes E) (hi : TreeInv t) (h : nebT ((t.rebalance steps).touchAll touched) = true) :
    WF none none (commitTree p pagesize hdr leafHdr branchHdr esz steps touched t) :=
  commitTree_wf p pagesize hdr leafHdr branchHdr esz hp h2 steps touched t hi h

/-- for every history of transactions (each: any write operations, then the commit model on every bucket with
its own rebalance steps and touched keys), provided each replay of rebalance steps leaves no childless branch:
the committed database is exactly the reference's state after all the operations in order, and every tree is
well-formed, so every read theorem applies to it -/
theorem whole_history_refines (p : Params) (hp : p.Valid) (h2 : 2 ≤ p.minKeysPerNode)
    (pagesize hdr leafHdr branchHdr bmSize : Nat) (db : TDB.DB Bytes Bytes)
    (hi : TDB.AllInv db) (hn : TDB.AllNeb db) (txs : List TDB.TxRec)
    (hc : TDB.HistoryComplete p pagesize hdr leafHdr branchHdr bmSize db txs) :
    TDB.abs (txs.foldl (TDB.runTx p pagesize hdr leafHdr branchHdr bmSize) db) =
      (txs.flatMap (·.ops)).foldl Spec.applyTOp (TDB.abs db) ∧
    TDB.AllWF (txs.foldl (TDB.runTx p pagesize hdr leafHdr branchHdr bmSize) db) := by
  have ⟨ha, hi', hn'⟩ := TDB.runTxs_refines hp h2 hi hn hc
  exact ⟨ha, TDB.allWF_of_allInv_of_allNeb _ hi' hn'⟩

/-- the database a new file starts as satisfies the hypotheses of `whole_history_refines` -/
theorem new_database_is_good :
    TDB.AllInv ([([], { nextInt := 0, tree := TDB.newTree })] : TDB.DB Bytes Bytes) ∧
    TDB.AllNeb ([([], { nextInt := 0, tree := TDB.newTree })] : TDB.DB Bytes Bytes) :=
  ⟨TDB.allInv_empty, TDB.allNeb_empty⟩

/-- a history of transactions on a FILE: each transaction's write operations, then a copy-on-write commit (any data
writes that keep the bytes the current state owns and leave the next database stored, then the sealed header into
the other slot) whose stored database has the reference's contents after the transaction's operations.  Opening the
file the history left behind — header choice, walk of every bucket from the root page, free-list page: what a fresh
transaction in the same process or after close + reopen reads — shows a database whose logical contents (every bucket
path with its counter and its entries in ascending order) are exactly the reference's after ALL operations of the
history, in order.  The per-commit premise is what `whole_history_refines` proves of the commit model and what the
run compares on every real commit; `Jamm.Props.C02` adds that every crash image in between shows the previous or the
next of these states. -/
theorem history_then_open_shows_reference_contents (pagesize : Nat)
    (hrec : Gen.layout.pgPtr + Gen.layout.metaSize ≤ pagesize) {s : Src} {slot : Nat} {st : Opened} {ov : Nat → Nat}
    {acc : List (TDB.Op Bytes Bytes)} {s' : Src} {slot' : Nat} {st' : Opened} {ov' : Nat → Nat}
    (hslot : slot = 0 ∨ slot = 1) (h0 : Committed Gen.layout Gen.hashOrder pagesize ov s slot st)
    (h : TxHistory Gen.layout Gen.hashOrder pagesize s slot st ov acc s' slot' st' ov')
    (fuel : Nat) (hf : st'.view.weight ≤ fuel) :
    ∃ o, openFile Gen.layout Gen.hashOrder pagesize fuel s' = some o ∧
      o.contents = acc.foldl Spec.applyTOp st.contents :=
  history_then_open Gen.layout Gen.hashOrder pagesize genLayout_wfEnc genLayout_wfMeta hrec (genLayout_hdr_le hrec)
    hslot h0 h fuel hf

end Jamm.Props.C01
