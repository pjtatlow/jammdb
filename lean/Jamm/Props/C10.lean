/-
C10 — freed space is reused: file growth is bounded by live data.

Allocator theorems (for every free set and request size): first fit returns a run of free pages
(`first_fit_sound`), fails only when no run of that length exists (`first_fit_complete`), and the file
is extended only in that case (`extension_only_without_run`); release moves exactly the pages freed by
transactions older than the bound (`release_exact`); with no reader open the next writer releases
every pending page (`everything_released_without_readers`), while pages an open reader needs are
retained (C03).  The accounting invariant is preserved along every history (`invariant_always`).
The plateau: per allocation, the file is extended only while it is small relative to the non-free pages
(`plateau_pigeonhole`, `extension_implies_small`); along every history of protocol-abiding events, in any
interleaving of writers and readers and for any number of transactions, the page mark stays at most
`max numPages₀ (K·(n+2)+1)` when requests are at most `K` pages and at most `n` pages are non-free (live
or pending) after each event (`plateau_along_every_history`).  No page below the mark is ever lost
(`no_page_is_lost`, `each_page_in_exactly_one_set`).
Across close and reopen (`Sys.reopen`: no transaction survives, the persisted list `FL.pages` is read back by
`FL.init` and everything on it is free, the header is unchanged; `Sys.runSegs`: a history of segments
separated by reopens): a reopen keeps the accounting invariant (`reopen_keeps_invariant`), makes every page
that was free or pending at close free and leaves nothing pending (`reopen_frees_everything`), loses no page
(`no_page_is_lost_across_reopen`), and the plateau bound holds along every history with any number of
reopens (`plateau_across_reopens`; `invariant_always_across_reopens`).
Tie: exact comparison of the real in-memory free list with the model's after every commit, on long
overwrite / delete / bucket-delete workloads with and without reopen and with a reader held.
-/
import Jamm.Proofs.ReopenLemmas

namespace Jamm.Props.C10

-- `hn`, `ha`, `h2` are not used: the scan is sound on any list
theorem first_fit_sound (n : Nat) (free : List Nat) (s : Nat) (hn : 0 < n) (ha : ascending free = true)
    (h2 : ∀ p ∈ free, 2 ≤ p) (h : FL.findRun n free 0 0 = some s) : ∀ i, i < n → (s + i) ∈ free :=
  findRun_sound h

theorem first_fit_complete (n : Nat) (free : List Nat) (hn : 0 < n) (ha : ascending free = true)
    (h2 : ∀ p ∈ free, 2 ≤ p) (h : FL.findRun n free 0 0 = none) : hasRun n free = false :=
  findRun_complete hn ((ascending_iff free).1 ha) h2 h

-- `hn`, `h2` are not used: only completeness of the scan needs them
theorem allocation_exact (f : FL) (n s : Nat) (f' : FL) (hn : 0 < n) (ha : ascending f.free = true)
    (h2 : ∀ p ∈ f.free, 2 ≤ p) (h : f.allocate n = some (s, f')) :
    (∀ i, i < n → (s + i) ∈ f.free) ∧ f'.pending = f.pending ∧
    (∀ p, p ∈ f'.free ↔ (p ∈ f.free ∧ (p < s ∨ s + n ≤ p))) ∧ ascending f'.free = true := by
  obtain ⟨hrun, rfl⟩ := FL.allocate_some h
  exact ⟨hrun, rfl, fun p => by simp only [List.mem_filter, decide_eq_true_eq],
    (ascending_iff _).2 (((ascending_iff _).1 ha).sublist List.filter_sublist)⟩

theorem extension_only_without_run (t : TxFL) (n : Nat) (hn : 0 < n) (ha : ascending t.fl.free = true)
    (h2 : ∀ p ∈ t.fl.free, 2 ≤ p) (h : (t.allocate n).2.numPages ≠ t.numPages) :
    hasRun n t.fl.free = false ∧ (t.allocate n).1 = t.numPages ∧ (t.allocate n).2.numPages = t.numPages + n := by
  rcases t.allocate_cases n with ⟨hnone, e⟩ | ⟨s, _, e⟩ <;> rw [e] at h ⊢
  · exact ⟨findRun_complete hn ((ascending_iff _).1 ha) h2 hnone, rfl, rfl⟩
  · exact absurd rfl h

theorem release_exact (f : FL) (bound : Nat) (ha : ascending (f.pending.map (·.1)) = true) :
    (∀ p, p ∈ (f.release bound).free ↔ (p ∈ f.free ∨ ∃ e ∈ f.pending, e.1 < bound ∧ p ∈ e.2)) ∧
    (∀ e, e ∈ (f.release bound).pending ↔ (e ∈ f.pending ∧ bound ≤ e.1)) :=
  ⟨mem_release_free f bound ((ascending_iff _).1 ha), mem_release_pending f bound ((ascending_iff _).1 ha)⟩

theorem everything_released_without_readers (s : Sys) (hi : s.invB = true) (h : s.readers = []) :
    s.beginWriter.fl.pending = [] := by
  rw [invB_iff] at hi
  rw [Sys.beginWriter_eq, s.bound_of_no_reader h]
  exact release_pending_eq_nil _ _ hi.ascKeys fun e he => Nat.lt_succ_of_le (hi.keysLe e he)

theorem invariant_always (s : Sys) (evs : List Ev) (s' : Sys) (hi : s.invB = true)
    (h : s.runEvs evs = some s') : s'.invB = true :=
  inv_run s evs s' hi h

/-- the plateau: if no run of `k` free pages exists below the mark `N`, then the free pages number at
most `(k-1)·(n+1)` where `n` is the number of non-free (live or still pending) pages — pigeonhole over
maximal free runs; independent of the number of transactions.  `hN` is not used: with truncated subtraction
`N ≤ 2 + free.length + (N - 2 - free.length)` holds of any `N` -/
theorem plateau_pigeonhole (k N : Nat) (free : List Nat) (hk : 0 < k) (ha : ascending free = true)
    (hr : ∀ p ∈ free, 2 ≤ p ∧ p < N) (hN : 2 ≤ N) (h : hasRun k free = false) :
    free.length ≤ (k - 1) * ((N - 2 - free.length) + 1) := by
  obtain ⟨m, rfl⟩ := Nat.exists_eq_add_one_of_ne_zero (Nat.ne_of_gt hk)
  refine no_run_bound ((ascending_iff free).1 ha) hr ?_ h
  rw [Nat.sub_sub]
  exact Nat.sub_le_iff_le_add'.1 (Nat.le_refl _)

/-- hence the file is extended only while it is small relative to the non-free pages:
`numPages ≤ (k-1)·(n+1) + n + 2` at every extension (the history-level consequence is
`plateau_along_every_history` below) -/
theorem extension_implies_small (t : TxFL) (k : Nat) (hk : 0 < k) (ha : ascending t.fl.free = true)
    (hr : ∀ p ∈ t.fl.free, 2 ≤ p ∧ p < t.numPages) (hN : 2 ≤ t.numPages)
    (h : (t.allocate k).2.numPages ≠ t.numPages) :
    t.numPages ≤ (k - 1) * ((t.numPages - 2 - t.fl.free.length) + 1) + (t.numPages - 2 - t.fl.free.length) + 2 := by
  obtain ⟨m, rfl⟩ := Nat.exists_eq_add_one_of_ne_zero (Nat.ne_of_gt hk)
  rcases t.allocate_cases (m + 1) with ⟨hnone, _⟩ | ⟨s, _, e⟩
  · exact extension_small t m ((ascending_iff _).1 ha) hr hN hnone
  · rw [e] at h; exact absurd rfl h

/-- the plateau along every history: however many transactions run, in whatever interleaving with
readers, the page mark never exceeds the larger of where it started and `K·(n+2)+1`, where `K` bounds the
length of every requested run (`requestsLe`) and `n` the number of non-free pages (live, or pending for a
reader / the next writer) observed after each event (`Sys.nonFreeLe`) -/
theorem plateau_along_every_history (s : Sys) (evs : List Ev) (s' : Sys) (K n : Nat)
    (hi : s.invB = true) (h : s.runEvs evs = some s')
    (hK : requestsLe K evs = true) (hn : s.nonFreeLe n evs = true) :
    s'.numPages ≤ max s.numPages (K * (n + 2) + 1) :=
  plateau_run ((invB_iff s).1 hi) h hK hn (Nat.le_max_left _ _)

/-- non-vacuity of `plateau_along_every_history`: a history with a reader held across a commit (which
delays the reuse and costs one extension) satisfies every hypothesis with `K = 1`, `n = 4`; the file ends
at 6 pages, within the bound `max 4 (1·(4+2)+1) = 7`, and `n = 3` would not do -/
example :
    let s0 : Sys := { cur := { txId := 0, reach := [2, 3] }, shared := {}, readers := [], numPages := 4 }
    let evs : List Ev := [.commitW { freed := [3], requests := [1] }, .beginR,
                          .commitW { freed := [4], requests := [1] }, .endR 0,
                          .commitW { freed := [5], requests := [1] }, .commitW { freed := [3], requests := [1] }]
    s0.invB = true ∧ ((s0.runEvs evs).map (·.numPages)) = some 6 ∧
    requestsLe 1 evs = true ∧ s0.nonFreeLe 4 evs = true ∧ s0.nonFreeLe 3 evs = false ∧
    6 ≤ max s0.numPages (1 * (4 + 2) + 1) := by
  -- a concrete history is run by the kernel alone: `+kernel` skips the elaborator's own evaluation of the same run
  decide +kernel

/-- non-vacuity: the freed page of one commit is reused two commits later, the file does not grow -/
example :
    let s0 : Sys := { cur := { txId := 0, reach := [2, 3] }, shared := {}, readers := [], numPages := 4 }
    let evs : List Ev := [.commitW { freed := [3], requests := [1] }, .commitW { freed := [4], requests := [1] },
                          .commitW { freed := [3], requests := [1] }, .commitW { freed := [4], requests := [1] }]
    ((s0.runEvs evs).map (·.numPages)) = some 5 := by decide +kernel

/-- no page is lost: along every history of protocol-abiding events, every page below the high-water mark is
reachable from the current snapshot, free, or pending (so every page a transaction gives up is available
again once no reader needs it) -/
theorem no_page_is_lost (s : Sys) (evs : List Ev) (s' : Sys) (hi : s.invB = true) (hcov : s.Covers)
    (h : s.runEvs evs = some s') : s'.Covers :=
  covers_run s evs s' hi hcov h

/-- … and in exactly one of the three -/
theorem each_page_in_exactly_one_set (s : Sys) (hi : s.invB = true) (hcov : s.Covers) (p : Nat)
    (h2 : 2 ≤ p) (hp : p < s.numPages) :
    (p ∈ s.cur.reach ∧ p ∉ s.shared.free ∧ p ∉ s.shared.pendingPages) ∨
    (p ∉ s.cur.reach ∧ p ∈ s.shared.free ∧ p ∉ s.shared.pendingPages) ∨
    (p ∉ s.cur.reach ∧ p ∉ s.shared.free ∧ p ∈ s.shared.pendingPages) :=
  Sys.page_in_exactly_one s hi hcov p h2 hp

example : ({ cur := { txId := 0, reach := [2, 3] }, shared := {}, readers := [], numPages := 4 } : Sys).Covers :=
  covers_init

/-- close and reopen preserves the accounting invariant (the reopened free set is ascending whatever the
order of the persisted list, disjoint from the reachable pages and in range; nothing is pending, no reader
is open) -/
theorem reopen_keeps_invariant (s : Sys) (hi : s.invB = true) : (s.reopen).invB = true :=
  (invB_iff _).2 ((invB_iff s).1 hi).reopen

theorem invariant_always_across_reopens (s : Sys) (segs : List (List Ev)) (s' : Sys) (hi : s.invB = true)
    (h : s.runSegs segs = some s') : s'.invB = true :=
  (invB_iff _).2 (((invB_iff s).1 hi).runSegs h)

/-- a page freed before the close (even one a reader of the closed process still pinned) is available to the first
writer after the open.  `hi` is not used: both halves hold of any state -/
theorem reopen_frees_everything (s : Sys) (hi : s.invB = true) :
    (s.reopen).shared.pending = [] ∧
    ∀ p, p ∈ (s.reopen).shared.free ↔ (p ∈ s.shared.free ∨ p ∈ s.shared.pendingPages) :=
  ⟨reopen_pending s, mem_reopen_free s⟩

/-- no page is lost along any history with reopens: every page below the high-water mark stays reachable,
free or pending through every event and every close/reopen -/
theorem no_page_is_lost_across_reopen (s : Sys) (segs : List (List Ev)) (s' : Sys) (hi : s.invB = true)
    (hcov : s.Covers) (h : s.runSegs segs = some s') : s'.Covers :=
  hcov.runSegs ((invB_iff s).1 hi) h

/-- the plateau across reopens: for any number of segments, transactions and reopens the page mark never
exceeds the larger of where it started and `K·(n+2)+1`, `K` bounding every requested run of every segment
(`requestsLeSegs`) and `n` the non-free count after each event of each segment (`Sys.nonFreeLeSegs`; a reopen
keeps the mark and does not increase the non-free count) -/
theorem plateau_across_reopens (s : Sys) (segs : List (List Ev)) (s' : Sys) (K n : Nat)
    (hi : s.invB = true) (h : s.runSegs segs = some s')
    (hK : requestsLeSegs K segs = true) (hn : s.nonFreeLeSegs n segs = true) :
    s'.numPages ≤ max s.numPages (K * (n + 2) + 1) :=
  plateau_runSegs ((invB_iff s).1 hi) h hK hn (Nat.le_max_left _ _)

/-- non-vacuity: in the first segment a reader is held (and never ended: the process closes), so pages 3 and 4
are still pending at close and the file has grown to 6 pages; after the reopen both are free, the writer of the
second segment reuses page 3 and the file stays at 6 pages — whereas the same writer without the reopen (reader
still held) extends the file to 7.  The two-segment history satisfies every hypothesis of
`plateau_across_reopens` with `K = 1`, `n = 4` (`n = 3` would not do).  (`reopen_eq` first replaces
`FL.pages` by `free ++ pendingPages`: `List.mergeSort` is defined by well-founded recursion and does not
evaluate under `decide`.) -/
example :
    let s0 : Sys := { cur := { txId := 0, reach := [2, 3] }, shared := {}, readers := [], numPages := 4 }
    let seg1 : List Ev := [.beginR, .commitW { freed := [3], requests := [1] },
                           .commitW { freed := [4], requests := [1] }]
    let seg2 : List Ev := [.commitW { freed := [5], requests := [1] }]
    s0.invB = true ∧
    ((s0.runEvs seg1).map (fun s => (s.shared.free, s.shared.pendingPages, s.numPages))) = some ([], [3, 4], 6) ∧
    ((s0.runSegs [seg1]).map (fun s => (s.shared.free, s.shared.pendingPages, s.numPages))) = some ([3, 4], [], 6) ∧
    ((s0.runSegs [seg1, seg2]).map (fun s => (s.cur.reach, s.shared.free, s.numPages))) = some ([2, 3], [4, 5], 6) ∧
    ((s0.runEvs (seg1 ++ seg2)).map (·.numPages)) = some 7 ∧
    requestsLeSegs 1 [seg1, seg2] = true ∧ s0.nonFreeLeSegs 4 [seg1, seg2] = true ∧
    s0.nonFreeLeSegs 3 [seg1, seg2] = false ∧
    6 ≤ max s0.numPages (1 * (4 + 2) + 1) := by
  simp only [Sys.runSegs, Sys.nonFreeLeSegs, reopen_eq]
  decide +kernel

end Jamm.Props.C10
