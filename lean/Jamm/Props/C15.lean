/-
C15 — files written by earlier versions stay readable.

* `layout_pinned`: the byte layout regenerated from the `#[repr(C)]` structs of the current source is
  the layout of the pinned release (page header, leaf / branch elements, bucket header, header record,
  legacy record, type tags) — re-decided on every run;
* `magic_version_pinned`, `hash_order_pinned`, `legacy_hash_order_pinned`: magic, version and the
  big-endian field order fed to both checksums are the pinned ones;
* the header is looked for in the current format first and the legacy format second, and a valid header
  with another page size is refused before anything else is read (`current_format_first`, `legacy_fallback`,
  `mismatch_refused_*`).
The logical half (identical contents, further commits accepted) is decided by the correspondence run on
golden files written by the pinned release; every file any check produces is parsed by this same
pinned-layout reader.
-/
import Jamm.Model.Codec
import Jamm.Gen.Layout
import Jamm.Gen.HashOrder

namespace Jamm.Props.C15

theorem layout_pinned : Gen.layout = Pinned.layout := by decide

theorem magic_version_pinned : Gen.layout.magic = 0x00ABCDEF ∧ Gen.layout.version = 1 := by decide

theorem hash_order_pinned :
    Gen.hashOrder = [.metaPage, .magic, .version, .pagesize, .rootPage, .nextInt, .numPages, .freelistPage, .txId] := by
  decide

theorem legacy_hash_order_pinned : Gen.oldHashOrder = Gen.hashOrder := by decide

/-- a valid header naming another page size is refused, whichever slot holds it -/
theorem mismatch_refused_slot0 (a : MetaRec) (v1 : Option MetaRec) (ps : Nat) (h : a.pagesize ≠ ps) :
    selectSlots (some a) v1 ps = .error .pagesizeMismatch := by
  simp [selectSlots, h]

theorem mismatch_refused_slot1 (b : MetaRec) (ps : Nat) (h : b.pagesize ≠ ps) :
    selectSlots none (some b) ps = .error .pagesizeMismatch := by
  simp [selectSlots, h]

/-- the legacy format is consulted only when neither slot is valid in the current format, and a
page-size mismatch found in the current format is final -/
theorem current_format_first (L : Layout) (order oldOrder : List MetaField) (digest : List UInt8 → List UInt8)
    (s : Src) (ps : Nat) (m : MetaRec)
    (h : selectSlots (slotValid L order s ps 0) (slotValid L order s ps 1) ps = .ok (some m)) :
    openAny L order oldOrder digest s ps = .ok m := by
  simp [openAny, h]

theorem legacy_fallback (L : Layout) (order oldOrder : List MetaField) (digest : List UInt8 → List UInt8)
    (s : Src) (ps : Nat) (m : MetaRec)
    (h0 : slotValid L order s ps 0 = none) (h1 : slotValid L order s ps 1 = none)
    (h : selectSlots (slotValidOld L oldOrder digest s ps 0) (slotValidOld L oldOrder digest s ps 1) ps = .ok (some m)) :
    openAny L order oldOrder digest s ps = .ok m := by
  have hn : selectSlots (none : Option MetaRec) none ps = .ok none := rfl
  simp only [openAny, h0, h1, hn, h]

end Jamm.Props.C15
