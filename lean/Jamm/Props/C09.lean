/-
C09 — writers are serialised, no update is lost, and nobody deadlocks.

Model (`Jamm/Model/Locks.lean`): threads running scripts of transactions, each holding at most one at
a time; the file mutex (held by a write transaction from begin to drop), the map rwlock (read-held by
a read transaction for its life, write-taken by `resize`), with BOTH reader-admission policies of the
rwlock.  Proved for every number of threads, every script and every schedule:
* at most one write transaction is open at any time (`writers_serialised`);
* in every state in which some thread still has something to do, some thread can move — for both
  admission policies (`no_deadlock`); every step strictly decreases the remaining work, and no work is left
  exactly when every thread has finished (`progress`, `finished_iff_no_work`) — that a fair scheduler brings
  every thread to its end is proved for the five-lock model below (`all_threads_finish_five_locks`);
* a reader's begin is not blocked by an open, uncommitted writer (`reader_not_blocked`);
* no lost update: a writer starts from the newest committed snapshot (`no_lost_update`, the same statement as C04
  `writer_starts_from_newest`).
Obligations on the regenerated step orders (`lock_order_*`): the writer lock is the first thing
`Tx::new` takes; `resize` takes the map write lock before the map-handle mutex; the header is read
(map-handle mutex) inside the reader-list mutex and never the other way round — so the three short
mutexes are leaf locks never held across a blocking acquisition of the two long-held locks.

All five locks (`Jamm/Model/LockOrder.lean`, second half of this file): file mutex F, map rwlock M
(read / write mode, both admission policies), reader-list mutex O, map-handle mutex D, free-list
mutex L.  The thread programs are *computed* from the regenerated step tables
(`genProgram k = program genTables k`, `genTables` the five regenerated tables: the steps of begin / commit / resize /
drop and the locks `meta()` takes), so a change
of the order in which the code takes its locks changes the programs the theorems are about.
* every generated transaction program — reader, writer that rolls back, writer that commits along any
  path (file grows or not, header re-read or not, free list published or not, error return after any
  number of steps) — respects the lock order F < M < O < D < L (`generated_programs_ordered`);
* any number of threads running any scripts of such transactions, under any schedule and either
  admission policy, never reach a state in which somebody has work left and nobody can move
  (`no_deadlock_five_locks`); every exclusive hold is exclusive, in particular at most one write
  transaction is open, and M-write excludes readers (`writers_serialised_five_locks`); every step
  consumes work, every reachable state can be run to completion and round-robin does so
  (`all_threads_finish_five_locks`);
* the order condition is not vacuous: with `resize` taking the map handle before the map write lock
  the program is not `Ordered` and a growing commit deadlocks against a beginning reader
  (`misordered_resize_deadlocks`); the generated programs nested on ONE thread (a write transaction,
  or with a writer-preferring rwlock a second read transaction, opened while a read transaction is
  open) are not `Ordered` and deadlock (`nested_write_in_read_deadlocks`,
  `nested_read_in_read_deadlocks`) — the model assumes a thread has one transaction open at a time.
-/
import Jamm.Proofs.LockLemmas
import Jamm.Proofs.LockOrderLemmas
import Jamm.Proofs.ConcLemmas
import Jamm.Gen.Steps
import Jamm.Gen.Sites

namespace Jamm.Props.C09

theorem writers_serialised (scripts : List (List TxKind)) (admit : Bool) (sched : List Nat) :
    ((LockSys.initial scripts admit).run sched).oneWriter = true :=
  LockSys.oneWriter_run sched _ (LockSys.oneWriter_initial scripts admit)

theorem no_deadlock (s : LockSys) (h : s.allFinished = false) : ∃ i, s.enabled i = true :=
  s.deadlock_free h

/-- a schedule therefore makes at most `work` effective steps -/
theorem progress (s : LockSys) (i : Nat) (he : s.enabled i = true) : (s.step i).work < s.work :=
  s.work_decreases i he

theorem finished_iff_no_work (s : LockSys) : s.allFinished = true ↔ s.work = 0 :=
  s.finished_iff_no_work

/-- a reader's begin is not blocked by an open, uncommitted writer (only, under the blocking admission
policy, by a writer already waiting to remap the file) -/
theorem reader_not_blocked (s : LockSys) (i : Nat) (t : Thread)
    (ht : s.threads[i]? = some t) (hp : t.phase = .wantR) (hr : s.resizeWaiting = false) :
    s.enabled i = true := by
  rw [s.enabled_eq i t ht]
  simp [LockSys.guard, hp, hr]

theorem no_lost_update (s : Sys2) (h : s.enabledB .beginW = true) :
    ((s.step .beginW).writer.map (·.txId)) = some (s.cur.txId + 1) ∧ (s.step .beginW).enabledB .beginW = false :=
  Jamm.writer_starts_from_newest s h

/-- `Tx::new` takes the transaction lock before anything else -/
theorem lock_order_tx_lock_first : Gen.beginSteps.head? = some .lockTx := by decide

/-- `resize`: map write lock, then the map-handle mutex, and nothing blocking after it -/
theorem lock_order_resize : Gen.resizeSteps = [.fallocate, .lockMapWrite, .lockData, .mmap, .storeMap] := rfl

/-- the reader-list mutex is released before the map handle is cloned; the header (map-handle mutex) is
read inside it: order reader-list → map-handle, consistent with `resize` (map → map-handle) -/
theorem lock_order_begin : before Gen.beginSteps .lockReaders .readMeta = true ∧
    before Gen.beginSteps .readMeta .unlockReaders = true ∧ before Gen.beginSteps .unlockReaders .cloneMap = true := by
  decide

/-- a reader's deregistration takes only the reader-list mutex -/
theorem lock_order_drop : Gen.dropSteps = [.lockReaders, .findReader, .removeReader] := rfl

/-- non-vacuity: three threads, one commit that must remap while a reader is open -/
example :
    let s := LockSys.initial [[.write true], [.read], [.write false, .read]] false
    (s.run [1, 1, 0, 0, 0, 0, 2, 1, 0, 0, 2, 2, 2, 2, 2, 2]).allFinished = true := by
  -- a concrete schedule is run by the kernel alone: `+kernel` skips the elaborator's own evaluation of the same run
  decide +kernel

open Jamm.LockOrder (Lk Act Ordered Kind CommitPath Tables program beginActs dropActs openActs rounds)

/-- the step tables the translator extracted from the source -/
def genTables : Tables :=
  { begin := Gen.beginSteps, commit := Gen.commitSteps, resize := Gen.resizeSteps, drop := Gen.dropSteps,
    mlocks := Gen.metaLocks }

def genProgram (k : Kind) : List Act := program genTables k

/-- every path: also the publication decision after a failed header write (re-read of the header,
publication or not) and an error return after any number of commit steps.  Evaluated on the generated tables:
`Tx::new` ends holding the transaction lock, every step of `write_data` gives back what it took, the drop
releases the transaction lock; `LockOrder.program_ordered` puts the three together -/
theorem generated_programs_ordered (k : Kind) : Ordered (genProgram k) = true := by
  rw [genProgram, genTables]
  exact LockOrder.program_ordered _ (by decide) (by decide) (by decide) k

theorem generated_programs_ordered_complete :
    Ordered (genProgram .read) = true ∧
    Ordered (genProgram (.write none)) = true ∧
    Ordered (genProgram (.write (some (.full false)))) = true ∧
    Ordered (genProgram (.write (some (.full true)))) = true :=
  ⟨generated_programs_ordered _, generated_programs_ordered _, generated_programs_ordered _,
    generated_programs_ordered _⟩

/-- every acquisition of one of the five locks anywhere in the crate (regenerated: function, lock, mode, in
source order) is one the step → lock-action mapping of the model accounts for: `open` (D then L), `resize`
(M-write then D), `meta` (D — as `Gen.metaLocks` says), `Tx::new` (F or M-read, L, O, D), `write_data` (L),
`Drop` (O).  A function that starts taking another lock — `meta()` taking the map read lock, say — breaks
this, and the model's programs (which take `meta`'s locks from `Gen.metaLocks`) change with it. -/
theorem lock_sites_are_the_modelled_ones :
    Gen.lockSites = ["db.rs:open:data.lock", "db.rs:open:freelist.lock", "db.rs:resize:mmap_lock.write", "db.rs:resize:data.lock",
      "db.rs:meta:data.lock", "tx.rs:new:file.lock", "tx.rs:new:mmap_lock.read", "tx.rs:new:freelist.lock",
      "tx.rs:new:open_ro_txs.lock", "tx.rs:new:data.lock", "tx.rs:write_data:freelist.lock", "tx.rs:drop:open_ro_txs.lock"] ∧
    Gen.metaLocks = [.data] := ⟨rfl, rfl⟩

/-- `DBInner::open` (single-threaded) is the one place where two of the short mutexes nest: D, then L -/
theorem open_ordered : Ordered (openActs Gen.metaLocks Gen.openInner) = true := by decide

/-- **no deadlock, five locks**: any number of threads, each running any script of transactions, either
admission policy of the rwlock, any schedule: if some thread still has something to do, some thread
can move -/
theorem no_deadlock_five_locks (scripts : List (List Kind)) (admit : Bool) (sched : List Nat) :
    let s := (LockOrder.Sys.ofScripts genProgram scripts admit).run sched
    s.allFinished = false → ∃ i, s.enabled i = true :=
  LockOrder.deadlock_free_ordered _ admit
    (LockOrder.ofScripts_ordered genProgram generated_programs_ordered scripts) sched

/-- the same for arbitrary programs: the only thing used about the generated ones is `Ordered` -/
theorem no_deadlock_ordered (progs : List (List Act)) (admit : Bool)
    (h : ∀ p ∈ progs, Ordered p = true) (sched : List Nat) :
    let s := (LockOrder.Sys.init progs admit).run sched
    s.allFinished = false → ∃ i, s.enabled i = true :=
  LockOrder.deadlock_free_ordered progs admit h sched

/-- **writers are serialised**: at most one thread holds the file mutex (= has a write transaction open);
more generally every exclusive hold is exclusive, and while the map write lock is held nobody holds the
map read lock -/
theorem writers_serialised_five_locks (scripts : List (List Kind)) (admit : Bool) (sched : List Nat) :
    let s := (LockOrder.Sys.ofScripts genProgram scripts admit).run sched
    s.exHolders .F ≤ 1 ∧ (∀ l, s.exHolders l ≤ 1) ∧ (s.exHolders .M ≠ 0 → s.readers = 0) := by
  -- exclusion is a property of the guards: it needs nothing about the programs
  intro s
  have hinv : LockOrder.Excl s := LockOrder.excl_reachable _ admit sched
  exact ⟨hinv.excl .F, hinv.excl, hinv.modes.resolve_left⟩

/-- **everybody finishes**: a step consumes work; from every reachable state some continuation of the
schedule completes every transaction of every thread; and round-robin (a fair schedule) does so from the
start -/
theorem all_threads_finish_five_locks (scripts : List (List Kind)) (admit : Bool) :
    (∀ (s : LockOrder.Sys) (i : Nat), s.enabled i = true → (s.step i).work < s.work) ∧
    (∀ sched, ∃ more,
      ((LockOrder.Sys.ofScripts genProgram scripts admit).run (sched ++ more)).allFinished = true) ∧
    ((LockOrder.Sys.ofScripts genProgram scripts admit).run
      (rounds scripts.length (LockOrder.Sys.ofScripts genProgram scripts admit).work)).allFinished = true := by
  have hord := LockOrder.ofScripts_ordered genProgram generated_programs_ordered scripts
  refine ⟨LockOrder.Sys.work_decreases, fun sched => LockOrder.can_finish_ordered _ admit hord sched, ?_⟩
  have := LockOrder.round_robin_finishes_ordered _ admit hord
  simpa [LockOrder.Sys.ofScripts] using this

/-- non-vacuity: a growing commit (thread 0) that has to wait for an open reader (thread 1), a writer that
has to wait for the first writer and then reads (thread 2); everybody finishes, under the writer-preferring
policy -/
example :
    let s := LockOrder.Sys.ofScripts genProgram
      [[.write (some (.full true))], [.read], [.write (some (.full false)), .read]] false
    let s1 := s.run (List.replicate 9 1 ++ List.replicate 9 0)
    -- the reader is open, the first writer waits for M-write, the second for F
    s1.enabled 0 = false ∧ s1.enabled 2 = false ∧ s1.enabled 1 = true ∧
    (s1.run (List.replicate 3 1 ++ List.replicate 7 0 ++ List.replicate 24 2)).allFinished = true := by
  decide +kernel

/-- `resize` taking the map-handle mutex before the map write lock -/
def misorderedResize : List ResizeStep := [.fallocate, .lockData, .lockMapWrite, .mmap, .storeMap]

/-- with that `resize` the growing commit is not `Ordered`, and it deadlocks against a reader that is
beginning: the reader holds M-read and waits for D (to read the header), the writer holds D and waits
for M-write.  Either admission policy. -/
theorem misordered_resize_deadlocks (admit : Bool) :
    let bad : Kind → List Act := program { genTables with resize := misorderedResize }
    Ordered (bad (.write (some (.full true)))) = false ∧
    let s := (LockOrder.Sys.ofScripts bad [[.write (some (.full true))], [.read]] admit).run
      ([1] ++ List.replicate 10 0 ++ List.replicate 3 1)
    s.allFinished = false ∧ ∀ i, s.enabled i = false := by
  -- `stuck` is the Bool form, bounded by the number of threads, of `∀ i : Nat, …`: it evaluates
  refine ⟨by decide, (LockOrder.Sys.stuck_iff _).mp ?_⟩
  cases admit <;> decide +kernel

/-- the generated programs, nested on one thread: a growing write transaction opened (and committed) while
the same thread has a read transaction open -/
def nestedWriteInRead : List Act :=
  beginActs false Gen.metaLocks Gen.beginSteps ++ genProgram (.write (some (.full true))) ++ dropActs false Gen.dropSteps

/-- … is not `Ordered` (F is taken while M-read is held) and deadlocks all by itself: `resize` waits for
the thread's own read lock -/
theorem nested_write_in_read_deadlocks (admit : Bool) :
    Ordered nestedWriteInRead = false ∧
    let s := (LockOrder.Sys.init [nestedWriteInRead] admit).run (List.replicate 18 0)
    s.allFinished = false ∧ ∀ i, s.enabled i = false := by
  refine ⟨by decide, (LockOrder.Sys.stuck_iff _).mp ?_⟩
  cases admit <;> decide +kernel

/-- a second read transaction opened while the same thread has a read transaction open -/
def nestedReadInRead : List Act :=
  beginActs false Gen.metaLocks Gen.beginSteps ++ genProgram .read ++ dropActs false Gen.dropSteps

/-- … is not `Ordered` (M-read is taken while M-read is held); with the writer-preferring rwlock it
deadlocks against a growing commit that arrives in between, with the reader-admitting one it does not:
the two admission policies really differ in the model -/
theorem nested_read_in_read_deadlocks :
    Ordered nestedReadInRead = false ∧
    (let s := (LockOrder.Sys.init [nestedReadInRead, genProgram (.write (some (.full true)))] false).run
        (List.replicate 9 0 ++ List.replicate 9 1)
     s.allFinished = false ∧ ∀ i, s.enabled i = false) ∧
    ((LockOrder.Sys.init [nestedReadInRead, genProgram (.write (some (.full true)))] true).run
        (List.replicate 9 0 ++ List.replicate 9 1 ++ List.replicate 15 0 ++ List.replicate 7 1)).allFinished
      = true := by
  refine ⟨by decide, (LockOrder.Sys.stuck_iff _).mp (by decide +kernel), by decide +kernel⟩

end Jamm.Props.C09
