/-
C02 — a crash at any instant leaves the previous or the new commit, never a mix.

Model: `Jamm/Model/Io.lean` (pages with content tokens, two header slots, durable image + writes
pending since the last completed sync; a power loss keeps any subset of the pending writes, each
possibly torn; a process kill keeps all of them).  Proved for every commit context satisfying
`CommitCtx.Ok` (current header newest and intact, copy-on-write, new header newer):
* `power_loss_atomic`: after any prefix of the commit's operations and any fates of the pending
  writes, recovery finds the previous commit complete or the new commit complete;
* `durable_after_return`: once the final sync has completed, every later crash recovers the new commit;
* `kill_atomic`: the same for process kills (also without the intermediate sync);
* `generated_order_is_safe`: the operations `TxInner::write_data` issues, in the order regenerated
  from the source on every run, have exactly the safe shape (all data writes, sync, header into the
  other slot, sync) — this is the obligation that failed for the pinned release (D8) and holds after
  the `fix:` commit; `pinned_order_not_atomic` is the machine-checked witness of that defect.
Assumptions, stated where the theorems are (they are also in the evidence file):
* A-disk: a 512-byte sector is written atomically; no write issued after a COMPLETED sync is durable
  before one issued before it; the page cache is coherent with the map.
* Quiescent start: every statement starts from `{durable := c.img0, pending := []}` — no unsynced write
  is outstanding when the commit begins.  After a commit whose final sync FAILED this is an assumption
  about the kernel (what happens to dirty pages after a failed fsync), not something the model shows;
  C11's fault runs exercise the next commits on the real kernel but cannot exhibit a power loss there.
* File length: extending the file (`.grow`) and the durability of the new length are not modelled —
  `commitOps` drops the step; the crash images of the correspondence run are cut to the pages in use.
* NoTornCollision (`Io.lean`): a header page mixing old and new 8-byte words does not verify its checksum
  (evaluated on every tear the run synthesises).
`CommitCtx.Ok.cow` (the commit writes no page of the snapshot it started from) is Jamm.Props.C12
`previous_snapshot_intact` / C03 on the protocol model, and is checked per commit on real files.

THE SAME AT THE LEVEL OF FILE BYTES (second half of this file; `Model/CommitFile.lean`,
`Proofs/CommitFile*.lean`): the composition of the header choice, the whole-database round trip and the
page writers, at the regenerated layout and checksum order, for every page size that holds a header record.
`openFile` is what `open` shows of a byte source (header choice, walk of every bucket from the root page,
free-list page); `commitFile` is `write_data` as a function on bytes.  `Committed s slot st` = state `st` is
stored in `s` under header slot `slot` on pages ≥ 2 and the other slot loses the choice.  Proved:
* `any_partial_commit_shows_previous_state`: EVERY byte source that keeps the bytes the previous state owns
  (its header page, its tree runs, its free-list run) opens as exactly the previous state, whatever was
  written elsewhere — any subset of a commit's data writes, torn at any granularity, arbitrary garbage — as
  long as the other header page is unchanged or does not verify (no sampling of subsets, no sector assumption);
* `data_writes_alone_show_previous_state`: in particular the file after all data writes and before the header;
* `completed_commit_shows_new_state`: after the header write `open` shows exactly the new state (every bucket
  at every depth, values, counters, free list), the file is again `Committed` (so the statement iterates over
  any number of commits), and the previous state is still stored under the old slot;
* `header_write_switches_states`: the same for ANY source `s1` in which the previous state still holds and the new
  state's pages are stored (pages shared with the previous state included), whoever wrote them;
* `damaged_new_header_shows_previous_state`: after a completed commit, any damage confined to the new header
  page that makes it fail verification gives back exactly the previous state (C12's fallback, in bytes);
* `every_history_of_commits_stays_committed`: induction over any number of such commits from any committed file;
* `copy_on_write_stores_the_whole_tree`: a writer that writes only the nodes on fresh pages leaves the whole tree
  (rewritten and shared nodes) stored and changes nothing outside the fresh runs — the premises `StoredV` of
  `header_write_switches_states` and `KeepsState` of `any_partial_commit_shows_previous_state`, for one bucket's tree
  sharing any subset of its nodes with the previous state;
* `whole_copy_on_write_commit_is_atomic`: the same for a whole database (every bucket at every depth) written
  copy-on-write, with the free-list page and the header: data writes alone show the previous state, the completed
  commit shows the new one and is committed again;
* `allocator_model_delivers_the_premise`: the page-level guarantee of the allocator model (Layer A: a protocol-abiding
  writer writes no page of the snapshot it started from) is exactly the byte-level premise `KeepsState`;
* `fresh_file_is_committed`, `second_commit_premises_hold`, `two_commit_file_opens_as_second_state`: the premises are
  satisfiable (a four-page file as `init_file` writes it; a concrete second commit on a six-page one).
What these do NOT cover: that the real commit writes only pages the previous state does not own is the
hypothesis `CommitOK.sep` — Layer A proves it of the allocator model (`reader_pages_never_written`, C03), and
the run evaluates it on the observed writes of every real commit against the decoded previous file
(`jmodel cow`); the durable-subset semantics of a power loss is `Io.lean` above.
-/
import Jamm.Proofs.IoLemmas
import Jamm.Proofs.CommitFileAtomic
import Jamm.Proofs.CommitFileAlloc
import Jamm.Proofs.GenLayout
import Jamm.Gen.HashOrder

namespace Jamm.Props.C02

theorem power_loss_atomic (c : CommitCtx) (hc : c.Ok) (k : Nat) (fates : List Fate) :
    Atomic c ((({ durable := c.img0, pending := [] } : Disk).run ((safeShape c).take k)).crash fates) :=
  crash_atomic c hc k fates

theorem durable_after_return (c : CommitCtx) (hc : c.Ok) (fates : List Fate) :
    let i := ((({ durable := c.img0, pending := [] } : Disk).run (safeShape c)).crash fates)
    recover i = some c.hpost ∧ intact i c.sdPost :=
  Jamm.durable_after_return c hc fates

theorem kill_atomic (c : CommitCtx) (hc : c.Ok) (k : Nat) :
    Atomic c ((({ durable := c.img0, pending := [] } : Disk).run ((safeShape c).take k)).kill) :=
  Jamm.kill_atomic c hc k

/-- even without the intermediate sync a kill is atomic, because the header is issued after all data writes -/
theorem kill_atomic_without_intermediate_sync (c : CommitCtx) (hc : c.Ok) (k : Nat) :
    Atomic c ((({ durable := c.img0, pending := [] } : Disk).run ((unsyncedShape c).take k)).kill) := by
  rw [unsyncedShape, run_take_pageWrites]
  -- `k - dirty.length = 0`: the prefix ends inside the data writes; `n + 1`: the header is pending behind all of them
  match hk : k - c.dirty.length with
  | 0 =>
    rw [Disk.kill_eq_crash]
    exact (crash_pageWrites_preLike c _ (fun _ he => List.mem_of_mem_take he) _).atomic hc
  | n + 1 =>
    rw [List.take_of_length_le (by omega), kill_unsynced_tail]
    exact Or.inr (postImg_recovers_post hc)

/-- the regenerated order of `write_data`, instantiated with any commit's dirty pages, is the safe shape -/
theorem generated_order_is_safe (c : CommitCtx) :
    commitOps Gen.commitSteps c.dirty (1 - c.slot) c.hpost = safeShape c :=
  commitOps_generated _ _ _

theorem generated_order_wellordered : CommitWellOrdered Gen.commitSteps = true := by decide

/-- D8: the order without the intermediate sync (`unsyncedShape`; what /repo had before 937fef3) is not crash atomic
under power loss: a power loss can keep the new header and lose one of its data pages — recovery then finds neither
commit complete -/
theorem pinned_order_not_atomic :
    ∃ (c : CommitCtx), c.Ok ∧ ∃ (k : Nat) (fates : List Fate),
      ¬ Atomic c ((({ durable := c.img0, pending := [] } : Disk).run ((unsyncedShape c).take k)).crash fates) := by
  refine ⟨{ img0 := { slot0 := .good ⟨1, 1⟩, slot1 := .good ⟨0, 0⟩, page := fun p => if p = 2 then 11 else 0 },
            slot := 0, hpre := ⟨1, 1⟩, hold := .good ⟨0, 0⟩, sdPre := [(2, 11)], sdPost := [(3, 22)],
            dirty := [(3, 22)], hpost := ⟨2, 2⟩ }, ?_, 2, [.lost, .full], ?_⟩
  · constructor <;> simp [recover, intact]
  · -- `k = 2`: the data write and the header write, both pending (no sync between them); fates `[.lost, .full]`: the
    -- header survives, the data page does not: recovery picks the new header, page 3 is still empty
    rintro (⟨h, _⟩ | ⟨_, h⟩)
    · exact absurd h (by decide)
    · exact absurd (h (3, 22) List.mem_cons_self) (by decide)

/-- the shape of a file between commits, at the regenerated layout and checksum order -/
abbrev CommittedFile (pagesize : Nat) (ov : Nat → Nat) (s : Src) (slot : Nat) (st : Opened) : Prop :=
  Committed Gen.layout Gen.hashOrder pagesize ov s slot st

theorem layout_fit_for_commit : Layout.WFEnc Gen.layout = true ∧ Layout.WFMeta Gen.layout = true :=
  ⟨genLayout_wfEnc, genLayout_wfMeta⟩

/-- every byte source that keeps the bytes the previous state owns opens as exactly the previous state, whatever
else it holds, as long as the other header page has the bytes it had or does not verify -/
theorem any_partial_commit_shows_previous_state (pagesize : Nat)
    (hrec : Gen.layout.pgPtr + Gen.layout.metaSize ≤ pagesize) (ov : Nat → Nat) (s c : Src) (slot : Nat)
    (hslot : slot = 0 ∨ slot = 1) (old : Opened) (h : CommittedFile pagesize ov s slot old)
    (k : KeepsState pagesize ov s c slot old)
    (hother : Src.AgreeOn s c ((1 - slot) * pagesize) ((1 - slot) * pagesize + pagesize) ∨
      slotValid Gen.layout Gen.hashOrder c pagesize (1 - slot) = none)
    (fuel : Nat) (hf : old.view.weight ≤ fuel) :
    openFile Gen.layout Gen.hashOrder pagesize fuel c = some old :=
  committed_survives genLayout_wf genLayout_wfm hrec (genLayout_hdr_le hrec) ov s c slot hslot old h k hother fuel hf

/-- the file after all the data writes of a commit and before its header write shows the previous state -/
theorem data_writes_alone_show_previous_state (pagesize : Nat)
    (hrec : Gen.layout.pgPtr + Gen.layout.metaSize ≤ pagesize) (ov : Nat → Nat) (s : Src) (slot : Nat)
    (hslot : slot = 0 ∨ slot = 1) (old new : Opened) (h : CommittedFile pagesize ov s slot old)
    (c : CommitOK Gen.layout Gen.hashOrder pagesize ov s old new) (fuel : Nat) (hf : old.view.weight ≤ fuel) :
    openFile Gen.layout Gen.hashOrder pagesize fuel (commitData Gen.layout pagesize ov new s) = some old := by
  have k1 := commitData_keeps_old genLayout_wfEnc genLayout_wfMeta hslot c
  have k2 := commitData_keeps_old genLayout_wfEnc genLayout_wfMeta (other_slot hslot) c
  exact any_partial_commit_shows_previous_state pagesize hrec ov s _ slot hslot old h k1 (Or.inl k2.page) fuel hf

/-- the completed commit shows exactly the new state, is again a committed file, and still stores the previous
state under the old slot -/
theorem completed_commit_shows_new_state (pagesize : Nat)
    (hrec : Gen.layout.pgPtr + Gen.layout.metaSize ≤ pagesize) (ov : Nat → Nat) (s : Src) (slot : Nat)
    (hslot : slot = 0 ∨ slot = 1) (old new : Opened) (h : CommittedFile pagesize ov s slot old)
    (c : CommitOK Gen.layout Gen.hashOrder pagesize ov s old new) (fuel : Nat) (hf : new.view.weight ≤ fuel) :
    openFile Gen.layout Gen.hashOrder pagesize fuel (commitFile Gen.layout pagesize ov (1 - slot) new s) = some new ∧
    CommittedFile pagesize ov (commitFile Gen.layout pagesize ov (1 - slot) new s) (1 - slot) new ∧
    Holds Gen.layout Gen.hashOrder pagesize ov (commitFile Gen.layout pagesize ov (1 - slot) new s) slot old := by
  have ⟨ho, hn, hold, hot⟩ := commit_shows_new Gen.layout Gen.hashOrder pagesize genLayout_wfEnc genLayout_wfMeta hrec
    (genLayout_hdr_le hrec) ov s slot hslot old new h.holds h.above c fuel hf
  exact ⟨ho, ⟨hn, c.above, hot⟩, hold⟩

/-- Copy-on-write commits (the general case: the new state shares every page it did not change with the previous
one).  `s1` is any byte source — e.g. the file after the data writes of a real commit — in which the previous state
still holds and the new state's pages are stored, however they got there.  After the header write `open` shows
exactly the new state, the file is again committed, the previous state is still stored under the old slot.
Together with `any_partial_commit_shows_previous_state` (which needs nothing of the new state): every crash
image of such a commit opens as exactly the previous or exactly the new state.  The run evaluates both premises on
every real commit of the C02 stream (`jmodel cow`: no data write touches a page the decoded previous state owns
or a header page; the view decoded from the new header is already readable from the file without the header) -/
theorem header_write_switches_states (pagesize : Nat)
    (hrec : Gen.layout.pgPtr + Gen.layout.metaSize ≤ pagesize) (ov ov' : Nat → Nat) (s1 : Src) (slot : Nat)
    (hslot : slot = 0 ∨ slot = 1) (old new : Opened)
    (hold : Holds Gen.layout Gen.hashOrder pagesize ov s1 slot old) (habove : ∀ r ∈ old.runs ov, 2 ≤ r.1)
    (hst : StoredV Gen.layout pagesize ov' s1 new.view)
    (hfl : ∃ p, decodePage Gen.layout s1 pagesize new.hdr.freelistPage = .ok p ∧ p.body = .freelist new.free ∧
      p.overflow = new.flOverflow)
    (c : HeaderOK Gen.layout Gen.hashOrder pagesize ov' s1 old new) (fuel : Nat) (hf : new.view.weight ≤ fuel) :
    openFile Gen.layout Gen.hashOrder pagesize fuel (writeMetaPage Gen.layout pagesize (1 - slot) new.hdr s1) = some new ∧
    CommittedFile pagesize ov' (writeMetaPage Gen.layout pagesize (1 - slot) new.hdr s1) (1 - slot) new ∧
    Holds Gen.layout Gen.hashOrder pagesize ov (writeMetaPage Gen.layout pagesize (1 - slot) new.hdr s1) slot old := by
  have ⟨ho, hn, hold', hot⟩ := header_write_switches Gen.layout Gen.hashOrder pagesize genLayout_wfEnc genLayout_wfMeta
    hrec (genLayout_hdr_le hrec) ov ov' s1 slot hslot old new hold habove hst hfl c fuel hf
  exact ⟨ho, ⟨hn, c.above, hot⟩, hold'⟩

/-- after a completed commit, whatever happens to the new header page: if it no longer verifies, `open` shows
exactly the previous state -/
theorem damaged_new_header_shows_previous_state (pagesize : Nat)
    (hrec : Gen.layout.pgPtr + Gen.layout.metaSize ≤ pagesize) (ov : Nat → Nat) (s d : Src) (slot : Nat)
    (hslot : slot = 0 ∨ slot = 1) (old new : Opened) (h : CommittedFile pagesize ov s slot old)
    (c : CommitOK Gen.layout Gen.hashOrder pagesize ov s old new)
    (k : KeepsState pagesize ov (commitFile Gen.layout pagesize ov (1 - slot) new s) d slot old)
    (hbad : slotValid Gen.layout Gen.hashOrder d pagesize (1 - slot) = none)
    (fuel : Nat) (hf : old.view.weight ≤ fuel) :
    openFile Gen.layout Gen.hashOrder pagesize fuel d = some old := by
  have hold := (commit_commits genLayout_wfEnc genLayout_wfMeta hrec (genLayout_hdr_le hrec) hslot
    h.holds h.above c).2
  exact crash_shows_old Gen.layout Gen.hashOrder pagesize genLayout_wf genLayout_wfm hrec (genLayout_hdr_le hrec)
    ov _ d slot hslot old hold k (.of_none hbad) fuel hf

/-- Along every history: from any committed file (e.g. the fresh one), after any number of completed copy-on-write
commits — each an arbitrary set of data writes that keeps the bytes the current state owns and leaves the next
state's pages stored, followed by the header write into the other slot — the file is again committed and opens as
exactly the state of the last commit.  So `any_partial_commit_shows_previous_state` applies at every point of every
history: whatever part of the next commit is in the file, `open` shows the last committed state -/
theorem every_history_of_commits_stays_committed (pagesize : Nat)
    (hrec : Gen.layout.pgPtr + Gen.layout.metaSize ≤ pagesize) {s : Src} {slot : Nat} {st : Opened} {ov : Nat → Nat}
    {s' : Src} {slot' : Nat} {st' : Opened} {ov' : Nat → Nat} (hslot : slot = 0 ∨ slot = 1)
    (h0 : CommittedFile pagesize ov s slot st)
    (hc : Commits Gen.layout Gen.hashOrder pagesize s slot st ov s' slot' st' ov') :
    (slot' = 0 ∨ slot' = 1) ∧ CommittedFile pagesize ov' s' slot' st' ∧
    ∀ fuel, st'.view.weight ≤ fuel → openFile Gen.layout Gen.hashOrder pagesize fuel s' = some st' :=
  commits_stay_committed Gen.layout Gen.hashOrder pagesize genLayout_wfEnc genLayout_wfMeta hrec
    (genLayout_hdr_le hrec) hslot h0 hc

/-- A copy-on-write writer establishes both premises for a tree that shares any subset of its nodes with the previous
state (`Proofs/EncodeTreeLemmas.lean`): writing only the nodes on fresh pages (`writeFreshT`) leaves EVERY node of the tree —
rewritten or shared — decodable from its own page (`StoredT`: what `header_write_switches_states` needs of the new
state), provided the shared ones were stored before, every node fits its run and the runs of the tree are pairwise
disjoint; and it changes no byte outside the runs of the fresh nodes (so with fresh runs disjoint from what the
previous state owns, `KeepsState`: what `any_partial_commit_shows_previous_state` needs) -/
theorem copy_on_write_stores_the_whole_tree (pagesize : Nat) (hhdr : Gen.layout.pageSize ≤ pagesize)
    (fresh : Nat → Bool) (ov : Nat → Nat) (t : Tree Bytes LeafVal) (s : Src)
    (hfit : nodesFit Gen.layout pagesize ov s.size t = true) (hdisj : (nodeRunsT ov t).Pairwise runsDisjoint)
    (hsh : SharedT Gen.layout pagesize fresh ov s t) :
    StoredT Gen.layout pagesize ov (writeFreshT Gen.layout pagesize fresh ov t s) t ∧
    (writeFreshT Gen.layout pagesize fresh ov t s).size = s.size ∧
    ∀ i, (∀ r ∈ freshRunsT fresh ov t, i < r.1 * pagesize ∨ (r.1 + r.2 + 1) * pagesize ≤ i) →
      (writeFreshT Gen.layout pagesize fresh ov t s).get i = s.get i :=
  ⟨writeFreshT_stored Gen.layout pagesize genLayout_wfEnc hhdr fresh ov s.size t s rfl hfit hdisj hsh,
   writeFreshT_size fresh ov t s,
   fun i h => writeFreshT_get Gen.layout pagesize genLayout_wfEnc fresh ov s.size t s i hfit h⟩

/-- A whole copy-on-write commit, every bucket at every nesting depth, in file bytes (`Proofs/EncodeViewLemmas.lean`,
`CommitFileAtomic.lean`): only the nodes on fresh pages are written, then the free-list page, then the sealed header into the
other slot; the new state shares every other page with the previous one (`SharedV`).  If the written runs lie on pages
≥ 2 that the previous state does not own (what the allocator guarantees: `allocator_model_delivers_the_premise`), then
the file after the data writes still opens as exactly the previous state, and after the header write `open` shows
exactly the new state, the file is committed again and the previous state is still stored under the old slot -/
theorem whole_copy_on_write_commit_is_atomic (pagesize : Nat)
    (hrec : Gen.layout.pgPtr + Gen.layout.metaSize ≤ pagesize) (fresh : Nat → Bool) (ov ov' : Nat → Nat) (s : Src)
    (slot : Nat) (hslot : slot = 0 ∨ slot = 1) (old new : Opened)
    (h0 : CommittedFile pagesize ov s slot old)
    (hfit : new.view.fits Gen.layout pagesize ov' s.size)
    (hdisj : (new.runs ov').Pairwise runsDisjoint)
    (hsh : SharedV Gen.layout pagesize fresh ov' s new.view)
    (hflfile : new.hdr.freelistPage * pagesize + (new.flOverflow + 1) * pagesize ≤ s.size)
    (hflfit : Gen.layout.pgPtr + 8 * new.free.length ≤ (new.flOverflow + 1) * pagesize)
    (hflid : new.hdr.freelistPage < 2 ^ 64) (hflrun : (new.flOverflow + 1) * pagesize < 2 ^ 64)
    (hfree : ∀ x ∈ new.free, x < 2 ^ 64)
    (hfresh2 : ∀ r ∈ new.freshRuns fresh ov', 2 ≤ r.1)
    (hsep : ∀ a ∈ old.runs ov, ∀ b ∈ new.freshRuns fresh ov', runsDisjoint a b)
    (c : HeaderOK Gen.layout Gen.hashOrder pagesize ov' s old new) (fuel : Nat) (hfo : old.view.weight ≤ fuel)
    (hfn : new.view.weight ≤ fuel) :
    openFile Gen.layout Gen.hashOrder pagesize fuel (cowCommitData Gen.layout pagesize fresh ov' new s) = some old ∧
    openFile Gen.layout Gen.hashOrder pagesize fuel
      (writeMetaPage Gen.layout pagesize (1 - slot) new.hdr (cowCommitData Gen.layout pagesize fresh ov' new s)) = some new ∧
    CommittedFile pagesize ov'
      (writeMetaPage Gen.layout pagesize (1 - slot) new.hdr (cowCommitData Gen.layout pagesize fresh ov' new s)) (1 - slot) new ∧
    Holds Gen.layout Gen.hashOrder pagesize ov
      (writeMetaPage Gen.layout pagesize (1 - slot) new.hdr (cowCommitData Gen.layout pagesize fresh ov' new s)) slot old :=
  cow_commit_atomic Gen.layout Gen.hashOrder pagesize genLayout_wfEnc genLayout_wfMeta hrec
    (genLayout_hdr_le hrec) fresh ov ov' s slot hslot old new h0 hfit hdisj hsh hflfile hflfit hflid hflrun hfree
    hfresh2 hsep c fuel hfo hfn

/-- Layer A delivers the premise: in any state of the release-protocol model that satisfies its invariant (proved
along every history: `Jamm.Props.C03.invariant_always`), for any protocol-abiding writer, a byte source that differs
from the file only inside the pages that writer writes (the runs first fit hands out) keeps the bytes of every state
whose pages are reachable in the current snapshot.  With `any_partial_commit_shows_previous_state`: whatever part of
such a commit reaches the file, `open` shows the previous state.  (That the real allocator is this first fit is the
call-by-call allocation tie of C10; that the real writes go only to allocated pages is `jmodel cow`.) -/
theorem allocator_model_delivers_the_premise (pagesize : Nat) (hps : 0 < pagesize) (ov : Nat → Nat) (s s' : Src)
    (slot : Nat) (hslot : slot < 2) (old : Opened) (sys : Sys) (w : WriterTx) (hi : sys.invB = true)
    (hc : sys.clientOkB (.commitW w) = true)
    (hreach : ∀ r ∈ old.runs ov, ∀ d, d ≤ r.2 → r.1 + d ∈ sys.cur.reach)
    (hsz : s'.size = s.size)
    (hsame : ∀ i, i / pagesize ∉ sys.writes w → s'.get i = s.get i) :
    KeepsState pagesize ov s s' slot old :=
  allocator_writes_keep_state pagesize hps ov s s' slot hslot old sys w hi hc hreach hsz hsame

/-- the state `init_file` writes, at page size 1024: empty root leaf at page 3, empty free list at page 2 -/
def freshState : Opened :=
  { hdr := MetaRec.seal Gen.layout Gen.hashOrder
      { metaPage := 0, magic := Gen.layout.magic, version := Gen.layout.version, pagesize := 1024, rootPage := 3,
        nextInt := 0, numPages := 4, freelistPage := 2, txId := 0, hash := 0 }
    view := { tree := .leaf 3 [], nextInt := 0, subs := [] }
    free := []
    flOverflow := 0 }

def blankFile : Src := { size := 4096, get := fun _ => 0 }

theorem freshState_runs : freshState.runs (fun _ => 0) = [(2, 0), (3, 0)] := by
  rw [Opened.runs, BucketView.allRuns_eq]
  rfl

theorem viewOK_leaf (p n : Nat) (es : List (Bytes × LeafVal)) (hwf : wfb none none (Tree.leaf p es) = true)
    (hsub : subBuckets es = []) : ViewOK ⟨.leaf p es, n, []⟩ :=
  ViewOK.mk _ hwf (by
    show SubsOK (subBuckets (Tree.flatten (Tree.leaf p es))) []
    rw [Tree.flatten, hsub]
    exact SubsOK.nil)

/-- the first commit: writing `freshState` (data, then the header into slot 0) onto any file of at least four pages
whose slot 1 does not carry the META tag gives a committed file -/
theorem first_commit_is_committed (s : Src) (hsize : 4096 ≤ s.size)
    (hblank : (s.get (1 * 1024 + Gen.layout.pgType)).toNat ≠ Gen.layout.typeMeta) :
    CommittedFile 1024 (fun _ => 0) (commitFile Gen.layout 1024 (fun _ => 0) 0 freshState s) 0 freshState := by
  -- `Committed` = `Holds` (`holds_of_header_write`, fed by what `commitData_stores` says of the data writes) ∧ runs on
  -- pages ≥ 2 ∧ `OtherLoses` (slot 1 is outside every written run, so it still lacks the META tag and does not verify)
  have hruns := freshState_runs
  have hfits : freshState.view.fits Gen.layout 1024 (fun _ => 0) s.size := by
    rw [BucketView.fits_iff]
    refine ⟨?_, by intro x hx; cases hx⟩
    show nodesFit Gen.layout 1024 (fun _ => 0) s.size (.leaf 3 []) = true
    exact nodesFit_leaf_iff.2 ⟨by decide, show 3 * 1024 + (0 + 1) * 1024 ≤ s.size by omega, by decide, by decide,
      fun _ h => nomatch h⟩
  have hdisj : (freshState.runs (fun _ => 0)).Pairwise runsDisjoint := by
    rw [hruns]; simp [runsDisjoint]
  obtain ⟨hdata, hsz, hout⟩ := commitData_stores genLayout_wfEnc genLayout_wfMeta (hhdr := by decide) (fun _ => 0)
    freshState s hfits hdisj (hflfile := by show 2 * 1024 + (0 + 1) * 1024 ≤ s.size; omega) (hflfit := by decide)
    (hflid := by decide) (hflrun := by decide) (hfree := by intro x hx; cases hx)
  have hab : ∀ r ∈ freshState.runs (fun _ => 0), 2 ≤ r.1 := by
    rw [hruns]; decide
  have hok : ViewOK freshState.view := viewOK_leaf _ _ _ (by decide) (by decide)
  have WM := genLayout_wfm
  refine ⟨holds_of_header_write genLayout_wf WM (hrec := by decide) (hhdr := by decide)
    (fun _ => 0) (commitData Gen.layout 1024 (fun _ => 0) freshState s) 0 freshState (hslot := .inl rfl)
    (hfile := by rw [hsz]; omega) (hm := seal_fits Gen.layout Gen.hashOrder _ (by decide)) (hv := seal_valid _ _ _)
    (hps := rfl) hdata hok (hroot := rfl) (hnext := rfl) hab, hab, ?_⟩
  -- slot 1 is untouched by the commit, so still not a header page
  have hb : (commitFile Gen.layout 1024 (fun _ => 0) 0 freshState s).get (1 * 1024 + Gen.layout.pgType) =
      s.get (1 * 1024 + Gen.layout.pgType) := by
    show (writeMetaPage Gen.layout 1024 0 freshState.hdr _).get _ = _
    rw [writeMetaPage_frame WM (by decide) 0 freshState.hdr _ (by right; decide),
      hout _ (by rw [hruns, RunOut]; decide)]
  rw [← hb] at hblank
  exact .of_none (slotValid_none_of_type _ _ _ _ 1 hblank)

/-- non-vacuity: writing `freshState` onto four blank pages (data, then the header into slot 0) gives a committed
file, so `CommittedFile` has an inhabitant and the theorems above have a starting point -/
theorem fresh_file_is_committed :
    CommittedFile 1024 (fun _ => 0) (commitFile Gen.layout 1024 (fun _ => 0) 0 freshState blankFile) 0 freshState :=
  first_commit_is_committed blankFile (by decide) (by decide)

/-- six zeroed pages: room for a second commit -/
def blankFile6 : Src := { size := 6144, get := fun _ => 0 }

theorem fresh_six_page_file_is_committed :
    CommittedFile 1024 (fun _ => 0) (commitFile Gen.layout 1024 (fun _ => 0) 0 freshState blankFile6) 0 freshState :=
  first_commit_is_committed blankFile6 (by decide) (by decide)

def file1 : Src := commitFile Gen.layout 1024 (fun _ => 0) 0 freshState blankFile6

theorem file1_size : file1.size = 6144 := by
  rw [file1, commitFile_size]
  rfl

/-- the state of a second transaction that put one key: a new root leaf on page 4, the new free list (the two pages
of the first state) on page 5, transaction id 1, header for slot 1 -/
def secondState : Opened :=
  { hdr := MetaRec.seal Gen.layout Gen.hashOrder
      { metaPage := 1, magic := Gen.layout.magic, version := Gen.layout.version, pagesize := 1024, rootPage := 4,
        nextInt := 0, numPages := 6, freelistPage := 5, txId := 1, hash := 0 }
    view := { tree := .leaf 4 [([107], .kv [118])], nextInt := 0, subs := [] }
    free := [2, 3]
    flOverflow := 0 }

/-- Non-vacuity of the commit step: the premises `CommitOK` of `completed_commit_shows_new_state` (hence `HeaderOK`,
`KeepsState`, … of the general theorems) hold for a concrete second commit on the fresh file -/
theorem second_commit_premises_hold :
    CommitOK Gen.layout Gen.hashOrder 1024 (fun _ => 0) file1 freshState secondState := by
  have hr1 := freshState_runs
  have hr2 : secondState.runs (fun _ => 0) = [(5, 0), (4, 0)] := by
    rw [Opened.runs, BucketView.allRuns_eq]; rfl
  refine
    { fit := ?fit, disj := ?disj, above := by rw [hr2]; decide, sep := ?sep, flfile := ?flfile, flfit := by decide,
      flid := by decide, flrun := by decide, free := ?free, ok := viewOK_leaf _ _ _ (by decide) (by decide), root := rfl, next := rfl,
      hfits := seal_fits Gen.layout Gen.hashOrder _ (by decide), valid := seal_valid _ _ _, ps := rfl,
      newer := by show (1 : Nat) > 0; decide, file := ?file }
  case fit =>
    rw [file1_size, BucketView.fits_iff]
    exact ⟨by decide, by intro x hx; cases hx⟩
  case disj => rw [hr2]; simp [runsDisjoint]
  case sep =>
    rw [hr1, hr2]; intro a ha b hb; simp at ha hb
    rcases ha with rfl | rfl <;> rcases hb with rfl | rfl <;> simp [runsDisjoint]
  case flfile => rw [file1_size]; decide
  case free => intro x hx; simp [secondState] at hx; rcases hx with rfl | rfl <;> decide
  case file => rw [file1_size]; decide

/-- … and so the two-commit file opens as exactly the second state, is committed again, and still stores the first -/
theorem two_commit_file_opens_as_second_state :
    openFile Gen.layout Gen.hashOrder 1024 2 (commitFile Gen.layout 1024 (fun _ => 0) 1 secondState file1) = some secondState ∧
    CommittedFile 1024 (fun _ => 0) (commitFile Gen.layout 1024 (fun _ => 0) 1 secondState file1) 1 secondState ∧
    Holds Gen.layout Gen.hashOrder 1024 (fun _ => 0) (commitFile Gen.layout 1024 (fun _ => 0) 1 secondState file1) 0 freshState :=
  completed_commit_shows_new_state 1024 (by decide) (fun _ => 0) file1 0 (Or.inl rfl) freshState secondState
    fresh_six_page_file_is_committed second_commit_premises_hold 2 (by
      show secondState.view.weight ≤ 2
      rw [BucketView.weight_eq]; decide)

end Jamm.Props.C02
