/-
C16 — open options change performance, not behaviour.

* The specification (`Jamm/Model/Spec.lean`) has no configuration parameter at all, and every Layer
  Q/T theorem (C01, C07, C08) is stated for arbitrary trees, i.e. for whatever node sizes a page size
  produces: behaviour is a function of the history only.  The correspondence run replays the same
  histories under the product of page sizes, initial page counts, strict mode and map-populate and
  compares each with the single specification run.
* The tunables the code derives thresholds from are regenerated from /repo/src and must satisfy the
  validity predicate the theorems assume (`params_valid`).
* Growth arithmetic (`tx.rs:315-323`): the computed extension always covers the required size, for
  every current size, requirement and step (`growth_covers`), in whole steps (`growth_whole_steps`).
* Layer C: the contents a commit leaves in a bucket do not depend on the page size or on any split
  threshold (`commit_contents_independent_of_pagesize`), and with the regenerated tunables commit keeps
  the tree invariant at every page size (`commit_invariant_any_pagesize`).
-/
import Jamm.Gen.Params
import Jamm.Gen.Steps
import Jamm.Proofs.CommitCompose
import Jamm.Proofs.GenLayout
import Jamm.Proofs.ImplCheckOwns
import Jamm.Proofs.TreeDBLemmas
import Jamm.Proofs.TreeDBCommit

namespace Jamm.Props.C16

theorem params_valid : Gen.params.Valid := genParams_valid

/-- the builder refuses page sizes that would misalign the in-place page views (D14, repaired): every
accepted size is a multiple of 8, the alignment of the `repr(C)` page structures -/
theorem accepted_pagesizes_aligned : 8 ∣ Gen.params.pagesizeAlign ∧ 1024 ≤ Gen.params.minPagesize := by decide

/-- `alloc_size = ((size_diff / MIN_ALLOC_SIZE) + 1) * MIN_ALLOC_SIZE`, new length `= current + alloc_size` -/
def grownSize (current required minAlloc : Nat) : Nat :=
  if current < required then current + (((required - current) / minAlloc) + 1) * minAlloc else current

theorem growth_covers (current required minAlloc : Nat) (hm : 0 < minAlloc) :
    required ≤ grownSize current required minAlloc := by
  unfold grownSize
  split
  · rename_i h
    have h1 : (required - current) < ((required - current) / minAlloc + 1) * minAlloc := by
      have := Nat.lt_div_mul_add (a := required - current) hm
      rw [Nat.add_mul, Nat.one_mul]
      exact this
    omega
  · omega

theorem growth_whole_steps (current required minAlloc : Nat) :
    minAlloc ∣ (grownSize current required minAlloc - current) := by
  unfold grownSize
  split
  · rw [Nat.add_sub_cancel_left]; exact Nat.dvd_mul_left _ _
  · simp

/-- the file is grown before any page is written, in every regenerated commit order -/
theorem grow_before_writes : before Gen.commitSteps .grow .writeData = true := by decide

/-- 9 MiB needed at 4 KiB: two steps of `MIN_ALLOC_SIZE` = 8 MiB -/
example : grownSize 4096 (9 * 1024 * 1024) Gen.params.minAllocSize = 4096 + 16 * 1024 * 1024 := by decide

/-- the same transaction committed under two page sizes (hence different split points and different
rebalance step lists) leaves the same contents in the bucket -/
theorem commit_contents_independent_of_pagesize (ps1 ps2 hdr leafHdr branchHdr bmSize : Nat)
    (steps1 steps2 : List RbStep) (touched1 touched2 : List Bytes) (t : Tree Bytes Ent) (h : TreeInv t) :
    (commitTree Gen.params ps1 hdr leafHdr branchHdr (entSize bmSize) steps1 touched1 t).flatten =
    (commitTree Gen.params ps2 hdr leafHdr branchHdr (entSize bmSize) steps2 touched2 t).flatten := by
  exact (h.commitTree_flatten ..).trans (h.commitTree_flatten ..).symm

/-- with the tunables of the current source, commit keeps the tree invariant at every page size -/
theorem commit_invariant_any_pagesize (pagesize hdr leafHdr branchHdr bmSize : Nat)
    (steps : List RbStep) (touched : List Bytes) (t : Tree Bytes Ent) (h : TreeInv t) :
    TreeInv (commitTree Gen.params pagesize hdr leafHdr branchHdr (entSize bmSize) steps touched t) :=
  commitTree_inv Gen.params pagesize hdr leafHdr branchHdr (entSize bmSize) params_valid genParams_minKeys steps touched t h

/-- strict mode runs the database's own check before the header is written; it accepts every file the
independent checker accepts (which the run establishes for every commit), so strict mode never turns a valid
commit into an error -/
theorem strict_mode_never_rejects_a_checked_file (mt : MetaRec) (pg : PageStore) (fileSize pagesize : Nat)
    (sum : FileSummary) (h : checkFile mt pg fileSize pagesize = .ok sum) : implCheck mt pg = .ok () :=
  implCheck_of_checkFile mt pg fileSize pagesize sum h

/-! ### behaviour is a function of the history, not of the trees.  Two databases that hold the same logical
contents in differently shaped trees (the same history committed under two page sizes, initial page counts,
…) answer every call alike and still hold the same contents afterwards. -/
section
variable {K V : Type} [Ord K] [Std.TransOrd K] [Std.LawfulEqOrd K] [DecidableEq K]

theorem same_contents_same_answers (db1 db2 : TDB.DB K V) (h1 : TDB.AllWF db1) (h2 : TDB.AllWF db2)
    (hab : TDB.abs db1 = TDB.abs db2) (p : Spec.Path K) (k : K) (v : V) (s m : Bool) :
    (TDB.put db1 p k v).1 = (TDB.put db2 p k v).1 ∧
    (TDB.delete db1 p k).1 = (TDB.delete db2 p k).1 ∧
    (TDB.bucketGetter db1 p k s m).1 = (TDB.bucketGetter db2 p k s m).1 ∧
    (TDB.deleteBucket db1 p k).1 = (TDB.deleteBucket db2 p k).1 ∧
    TDB.get db1 p k = TDB.get db2 p k ∧ TDB.scan db1 p = TDB.scan db2 p ∧ TDB.nextInt db1 p = TDB.nextInt db2 p := by
  refine ⟨?_, ?_, ?_, ?_, ?_, ?_, ?_⟩
  · rw [(TDB.put_refines db1 h1 p k v).1, (TDB.put_refines db2 h2 p k v).1, hab]
  · rw [(TDB.delete_refines db1 h1 p k).1, (TDB.delete_refines db2 h2 p k).1, hab]
  · rw [(TDB.bucketGetter_refines db1 h1 p k s m).1, (TDB.bucketGetter_refines db2 h2 p k s m).1, hab]
  · rw [(TDB.deleteBucket_refines db1 h1 p k).1, (TDB.deleteBucket_refines db2 h2 p k).1, hab]
  · rw [TDB.get_refines db1 h1 p k, TDB.get_refines db2 h2 p k, hab]
  · rw [TDB.scan_refines db1 p, TDB.scan_refines db2 p, hab]
  · rw [TDB.nextInt_refines db1 p, TDB.nextInt_refines db2 p, hab]

/-- … and after any further sequence of write operations they still hold the same contents -/
theorem same_contents_preserved (db1 db2 : TDB.DB K V) (h1 : TDB.AllWF db1) (h2 : TDB.AllWF db2)
    (hab : TDB.abs db1 = TDB.abs db2) (ops : List (TDB.Op K V)) :
    TDB.abs (ops.foldl TDB.applyOp db1) = TDB.abs (ops.foldl TDB.applyOp db2) := by
  rw [(TDB.applyOps_refines db1 h1 ops).1, (TDB.applyOps_refines db2 h2 ops).1, hab]

-- the section's four instances are arguments of this statement and are not used
set_option linter.unusedSectionVars false in
/-- … and after commits that rewrite the trees in whatever configuration-dependent way, as long as each keeps
its bucket's contents (`commit_contents_independent_of_pagesize` says so of the commit model) -/
theorem same_contents_after_commits (f1 f2 : Spec.Path K → Tree K (Spec.Item V) → Tree K (Spec.Item V))
    (db1 db2 : TDB.DB K V) (hab : TDB.abs db1 = TDB.abs db2)
    (hf1 : ∀ e ∈ db1, (f1 e.1 e.2.tree).flatten = e.2.tree.flatten)
    (hf2 : ∀ e ∈ db2, (f2 e.1 e.2.tree).flatten = e.2.tree.flatten) :
    TDB.abs (TDB.commitWith f1 db1) = TDB.abs (TDB.commitWith f2 db2) := by
  rw [TDB.commitWith_invisible f1 db1 hf1, TDB.commitWith_invisible f2 db2 hf2, hab]

end

/-- the same database committed by the commit model under two page sizes (any split thresholds derived from
them, any rebalance steps, any touched keys), values included, has the same logical contents afterwards -/
theorem commit_under_two_page_sizes_same_contents (ps1 ps2 hdr leafHdr branchHdr bmSize : Nat)
    (steps1 steps2 : Spec.Path Bytes → List RbStep) (touched1 touched2 : Spec.Path Bytes → List Bytes)
    (db : TDB.DB Bytes Bytes) (h : TDB.AllInv db) :
    TDB.abs (TDB.commitDB Gen.params ps1 hdr leafHdr branchHdr bmSize steps1 touched1 db) =
    TDB.abs (TDB.commitDB Gen.params ps2 hdr leafHdr branchHdr bmSize steps2 touched2 db) := by
  rw [TDB.commitDB_invisible db h, TDB.commitDB_invisible db h]

end Jamm.Props.C16
