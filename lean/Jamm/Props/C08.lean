/-
C08 — cursors, seeks and ranges return the right entries in order.

The model is `Jamm/Model/Cursor.lean`: the stack machine of `cursor.rs` (after the `fix:` commits for
the empty-bucket underflow, the excluded start bound and leaves emptied inside a transaction).  All
theorems are for every key type with a lawful total order (byte strings are one), every tree, every
seek key and every pair of bounds; trees may contain leaves emptied by the current transaction, so the
same theorems cover committed and mid-transaction buckets (C07).
-/
import Jamm.Proofs.CursorRange
import Jamm.Model.FileCheck
set_option linter.unusedSectionVars false
open Std

namespace Jamm.Props.C08
variable {K E : Type} [Ord K] [TransOrd K] [LawfulEqOrd K] [DecidableEq K]

/-- a cursor yields every entry of its bucket exactly once, in tree order, for any tree whose
branches are non-empty — no ordering assumption is needed for this -/
theorem cursor_enumerates (t : Tree K E) (h : Shape t) (n : Nat) (hn : t.flatten.length < n) :
    (Cursor.drain n { root := t }).1 = t.flatten :=
  drain_fresh t h.shp n hn

/-- on a well-formed tree that order is strictly ascending key order -/
theorem cursor_enumerates_ascending (t : Tree K E) (h : WF none none t) (n : Nat) (hn : t.flatten.length < n) :
    (Cursor.drain n { root := t }).1 = t.flatten ∧ Spec.Sorted t.flatten :=
  ⟨drain_fresh t h.shp n hn, flatten_sorted none none t h⟩

/-- calling `next` again after the end is harmless: it keeps returning `none` -/
theorem next_after_end_is_none (t : Tree K E) (h : Shape t) (n : Nat) (hn : t.flatten.length < n) :
    let c := (Cursor.drain n { root := t }).2
    c.next.1 = none ∧ c.next.2.next.1 = none := by
  obtain ⟨_, hc, hp⟩ := drain_fresh_spec t h.shp n hn
  obtain ⟨h1, hc1, hp1⟩ := next_of_pending_nil t _ hc hp
  exact ⟨h1, (next_of_pending_nil t _ hc1 hp1).1⟩

/-- seek reports whether the key exists and positions iteration at that key or, if it is absent, at
an immediate neighbour, after which every later entry follows in order -/
theorem seek_correct (t : Tree K E) (h : WF none none t) (key : K) (n : Nat) (hn : t.flatten.length < n) :
    let r := Cursor.seek { root := t } key
    Spec.SeekOk t.flatten key r.1 (Cursor.drain n r.2).1 :=
  seek_spec t h key n hn

/-- `seek` re-positions a cursor whatever it did before (entries already yielded, exhausted): the result
depends on the tree and the key only, so `seek_correct` holds for every cursor on the tree -/
theorem seek_ignores_cursor_history (c : Cursor K E) (key : K) :
    Cursor.seek c key = Cursor.seek { root := c.root } key := rfl

theorem seek_correct_any_cursor (c : Cursor K E) (h : WF none none c.root) (key : K) (n : Nat)
    (hn : c.root.flatten.length < n) :
    let r := Cursor.seek c key
    Spec.SeekOk c.root.flatten key r.1 (Cursor.drain n r.2).1 := by
  rw [seek_ignores_cursor_history]
  exact seek_spec c.root h key n hn

/-- a range scan yields exactly the entries within its bounds, for all nine kinds of bound pairs
(inclusive / exclusive / unbounded on either side), present or absent, reversed or out of range -/
theorem range_correct (t : Tree K E) (h : WF none none t) (lo hi : Spec.Bound K) (n : Nat)
    (hn : t.flatten.length < n) :
    RangeIt.drain n { c := { root := t }, lo := lo, hi := hi } = Spec.range t.flatten lo hi :=
  range_spec t h lo hi n hn

/-- the bucket-only and pair-only iterators are filters of the cursor's output, hence neither skip
nor duplicate -/
theorem filters_correct (t : Tree K (Spec.Item V)) (h : Shape t) (n : Nat) (hn : t.flatten.length < n) :
    Spec.bucketsOf (Cursor.drain n { root := t }).1 = Spec.bucketsOf t.flatten ∧
    Spec.kvPairsOf (Cursor.drain n { root := t }).1 = Spec.kvPairsOf t.flatten := by
  rw [cursor_enumerates t h n hn]; exact ⟨rfl, rfl⟩

/-- the binary search: a present key is found at its position -/
theorem index_present (keys : List K) (key : K) (hs : KeysSorted keys) (i : Nat) (h : keys[i]? = some key) :
    indexOf keys key = (i, true) :=
  indexOf_of_getElem? keys key hs i h

/-- an absent key yields the slot before its insertion point, saturating at 0.  `hs` is not used: the absent case needs
no order. -/
theorem index_absent (keys : List K) (key : K) (hs : KeysSorted keys) (h : key ∉ keys) :
    indexOf keys key = (countBelow keys key - 1, false) :=
  indexOf_not_mem keys key h

/-- non-vacuity: a three-level tree with leftmost-spine slack and emptied leaves is accepted by the
checker, and the theorems' conclusions can be observed on it -/
example :
    let t : Tree Nat Nat :=
      .branch 1 (.cons 10 (.branch 2 (.cons 10 (.leaf 3 [(3, 0), (10, 1), (12, 2)]) (.cons 20 (.leaf 4 []) (.cons 30 (.leaf 5 [(30, 3)]) .nil))))
                (.cons 40 (.branch 6 (.cons 40 (.leaf 7 []) (.cons 50 (.leaf 8 [(50, 4)]) .nil))) .nil))
    wfb none none t = true ∧
    (Cursor.drain 10 { root := t }).1 = [(3, 0), (10, 1), (12, 2), (30, 3), (50, 4)] ∧
    RangeIt.drain 10 { c := { root := t }, lo := .excl 10, hi := .incl 50 } = [(12, 2), (30, 3), (50, 4)] := by
  -- evaluated by the kernel alone: the elaborator's evaluation of the same terms costs as much again
  decide +kernel

end Jamm.Props.C08
