/-
C13 — only one process at a time has the database open.

Model: `Jamm/Model/Proc.lean` (open the path, creating an empty file if there is none; blocking exclusive
advisory lock; initialise the file under the lock if it is still empty; map, read header, work, close),
any number of processes, every interleaving of their steps.  The file is missing, empty (length 0),
garbage (not empty, no valid header -- e.g. left by a process that died while initialising it) or ready
(valid header pages).  The model can express failure: as in `DBInner::open`, only an EMPTY file is
initialised; the opener of a garbage file fails and drops its handle, and the file is left as it is.
Proved:
* at most one process is between lock-acquired and close, and whoever is inside has seen every
  commit made before it got in -- for every initial file state, garbage included, and every schedule
  (`mutual_exclusion`);
* no process ever fails, for every initial file state other than garbage (missing, empty, ready)
  and every schedule (`no_opener_ever_fails`; `existing_file_never_fails` is the case of an initialised
  file); the hypothesis is needed: a file that is not empty and holds no valid header makes its opener
  fail, and it is never overwritten, under every schedule
  (`unreadable_file_is_reported_not_overwritten`);
  whoever is inside sees an initialised file, for every initial file state
  (`inside_sees_initialised_file`); the file is locked before it
  is mapped or read (`existing_open_locks_first`, decided on the regenerated step order);
* the path is opened with create-if-missing and never tested for existence first (`open_outer_order`), and the
  lock is taken before a missing / empty file is initialised (`create_path_locked`: the obligation holds on the
  regenerated order; D12, DESIGN §1.1, was the absence of this).  On the step order of the pinned release the
  obligation is false (`pinned_create_path_not_locked`) and `create_race_witness_pinned` is a two-process schedule
  in which the late opener gets the lock on the uninitialised file and fails; the regenerated order passes the same
  schedule (`repaired_order_passes_that_schedule`).
Advisory-lock semantics (one holder, same host) are an assumption.
-/
import Jamm.Proofs.ProcLemmas
import Jamm.Gen.Steps

namespace Jamm.Props.C13

theorem mutual_exclusion (n : Nat) (file : FileSt) (sched : List Nat) :
    ((ProcSys.initial n file).run sched).exclusive = true ∧ ((ProcSys.initial n file).run sched).sawAll = true :=
  ProcSys.exclusive_sawAll_of_good (ProcSys.good_run (ProcSys.good_initial n file) sched)

/-- when the initial file is missing, empty or initialised, no opener ever fails.  The hypothesis
`file ≠ .garbage` is needed: the opener of a non-empty file without a valid header does fail
(`unreadable_file_is_reported_not_overwritten`); what is proved is that no step of the protocol produces
such a file and that finding one is the only way to fail. -/
theorem no_opener_ever_fails (n : Nat) (file : FileSt) (hf : file ≠ .garbage) (sched : List Nat) :
    ((ProcSys.initial n file).run sched).noFailure = true :=
  ProcSys.noFailure_run sched _ hf (ProcSys.noFailure_initial n file)

theorem existing_file_never_fails (n : Nat) (sched : List Nat) :
    ((ProcSys.initial n .ready).run sched).noFailure = true :=
  no_opener_ever_fails n .ready (by decide) sched

/-- a non-empty file without a valid header: its opener fails (a single process: open, lock, read the
header), and under every schedule of any number of processes the file is left as it is -- the code never
initialises a file that is not empty -/
theorem unreadable_file_is_reported_not_overwritten :
    ((ProcSys.initial 1 .garbage).run [0, 0, 0]).noFailure = false ∧
    ∀ (n : Nat) (sched : List Nat), ((ProcSys.initial n .garbage).run sched).file = .garbage :=
  ⟨by decide, fun _ sched => ProcSys.garbage_run sched _ rfl⟩

theorem inside_sees_initialised_file (n : Nat) (file : FileSt) (sched : List Nat) :
    let s := (ProcSys.initial n file).run sched
    (s.procs.any (fun p => match p with | .inside _ => true | _ => false)) = true → s.file = .ready := by
  intro s h
  obtain ⟨p, hp, hq⟩ := List.any_eq_true.1 h
  cases p with
  | inside m => exact ProcSys.inside_ready_run sched _ (fun m hm => by cases ProcSys.mem_initial hm) m hp
  | _ => cases hq

theorem existing_open_locks_first : OpenLocksBeforeMap Gen.openInner = true := by decide

/-- the open path opens the file (creating an empty one if it is missing) without testing for existence,
then calls `DBInner::open` (lock, initialise if empty, map) -/
theorem open_outer_order : Gen.openOuter = [.openOrCreate, .dbOpen] := rfl

/-- the lock is held while a missing / empty file is initialised (D12 was the absence of this) -/
theorem create_path_locked : OpenLocksBeforeInit Gen.openOuter Gen.initSteps Gen.openInner = true := by decide

/-- the pinned release did not hold the lock while it initialised the file -/
theorem pinned_create_path_not_locked :
    OpenLocksBeforeInit pinnedOpenOuter pinnedInitSteps pinnedOpenInner = false := by decide

/-- D12 (DESIGN §1.1) on the pinned order: the late opener gets the lock on the uninitialised file -/
theorem create_race_witness_pinned :
    ((ProcSys.initial 2 .missing).runPinned [0, 1, 1, 1]).noFailure = false :=
  Jamm.create_race_witness_pinned

theorem repaired_order_passes_that_schedule :
    ((ProcSys.initial 2 .missing).run [0, 1, 1, 1]).noFailure = true :=
  Jamm.repaired_order_passes_that_schedule

end Jamm.Props.C13
