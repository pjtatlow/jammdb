/-
C03 — a read-only transaction sees one frozen snapshot for its whole life.

Model (`Jamm/Model/Freelist.lean`): snapshots are (transaction id, set of reachable pages); a reader
keeps the snapshot it started from *by value* (the code copies the header at begin and keeps its own
reference to the map); writers are abstract copy-on-write clients that free pages of the snapshot they
started from and write only pages they allocated; `Tx::new(writable)` releases pending pages older than
the oldest registered reader.  Theorems, for every history of protocol-abiding events and any number
of readers opened and closed in any order:
* the accounting invariant holds in every reachable state (`invariant_always`);
* no committing writer ever writes a page of an open reader's snapshot (`reader_pages_never_written`);
* no page of an open reader's snapshot is ever in the shared free set (`reader_pages_never_free`).
A page that is never written keeps its bytes, and a reader resolves its snapshot only through pages of
`reach`, so what it observes cannot change.
Readers may also begin and end WHILE a write transaction is open (between its begin, where it decides what to release,
and its commit): that order is covered by the model with the writer's begin and commit as separate events
(`Jamm/Model/Conc.lean`, shared with C04): `invariant_with_writer_open`, `reader_pages_safe_with_writer_open`.
The tie to the code is exact and checked on every commit
of the correspondence run: the writer's freed / allocated page sets are extracted from consecutive
real files, the model applies its own release rule, and the real in-memory free list (hook accessor)
must equal the model's.
-/
import Jamm.Proofs.FreelistLemmas
import Jamm.Proofs.ConcLemmas

namespace Jamm.Props.C03

theorem invariant_initially :
    ({ cur := { txId := 0, reach := [2, 3] }, shared := {}, readers := [], numPages := 4 } : Sys).invB = true :=
  by decide

theorem invariant_always (s : Sys) (evs : List Ev) (s' : Sys) (hi : s.invB = true)
    (h : s.runEvs evs = some s') : s'.invB = true :=
  inv_run s evs s' hi h

-- `hc` is not used: the invariant alone gives it
theorem reader_pages_never_written (s : Sys) (evs : List Ev) (s' : Sys) (hi : s.invB = true)
    (h : s.runEvs evs = some s') (w : WriterTx) (hc : s'.clientOkB (.commitW w) = true)
    (r : Snap) (hr : r ∈ s'.readers) : disjointB r.reach (s'.writes w) = true :=
  (disjointB_iff _ _).2
    (s'.writes_eq w ▸ reader_pages_not_written (((invB_iff s).1 hi).run h) s'.bound s'.admits_bound w hr)

theorem reader_pages_never_free (s : Sys) (evs : List Ev) (s' : Sys) (hi : s.invB = true)
    (h : s.runEvs evs = some s') (r : Snap) (hr : r ∈ s'.readers) :
    disjointB r.reach s'.shared.free = true :=
  (disjointB_iff _ _).2 (reader_pages_not_free (((invB_iff s).1 hi).run h) hr)

/-- a reader's snapshot is a value: no event changes the snapshot an open reader holds -/
theorem reader_snapshot_is_a_value (s : Sys) (w : WriterTx) :
    (s.step (.commitW w)).readers = s.readers ∧ (s.step (.dropW w)).readers = s.readers := ⟨rfl, rfl⟩

/-- the same with the writer's begin and its commit as separate events, readers beginning and ending in
between (single-threaded histories in which a reader is opened or closed while a write transaction is open).
`hch` is not used: atomic events never read `choosing` -/
theorem invariant_with_writer_open (s : Sys2) (evs : List Ev2) (s' : Sys2) (hi : s.base.invB = true)
    (hw : s.writer = none) (hch : s.choosing = []) (hat : evs.all Ev2.atomic = true)
    (h : s.run evs = some s') : s'.base.invB = true :=
  Sys2.invB_run s evs s' hi hw hat h

/-- … and when the open writer commits, no page of any open reader's snapshot is free or written, whether
the reader began before the writer, or after the writer's begin.  `hch` is not used: atomic events never read
`choosing` -/
theorem reader_pages_safe_with_writer_open (s : Sys2) (evs : List Ev2) (s' : Sys2) (hi : s.base.invB = true)
    (hw : s.writer = none) (hch : s.choosing = []) (hat : evs.all Ev2.atomic = true)
    (h : s.run evs = some s') (w : WriterTx) (hen : s'.enabledB (.commitW w) = true) :
    s'.readersSafeB w = true :=
  readers_safe_run s evs s' hi hw hat h w hen

/-- non-vacuity: a reader begins after the writer's begin and is still open when the writer commits and
when the next writer reuses pages -/
example :
    let s0 : Sys2 := { cur := { txId := 0, reach := [2, 3] }, shared := {}, readers := [], numPages := 4 }
    let evs : List Ev2 := [.beginW, .beginR, .commitW { freed := [3], requests := [1] },
                           .beginW, .commitW { freed := [4], requests := [1] }, .beginW]
    ((s0.run evs).map (fun s => (s.readers.map (·.reach), s.readersSafeB { freed := [5], requests := [1] }))) =
      some ([[2, 3]], true) := by
  -- a concrete history is run by the kernel alone: `+kernel` skips the elaborator's own evaluation of the same run
  decide +kernel

/-- non-vacuity: a reader held across two page-reusing commits -/
example :
    let s0 : Sys := { cur := { txId := 0, reach := [2, 3] }, shared := {}, readers := [], numPages := 4 }
    let evs : List Ev := [.commitW { freed := [3], requests := [1] }, .beginR,
                          .commitW { freed := [4], requests := [2] }, .commitW { freed := [5], requests := [1] }]
    (s0.runEvs evs).isSome = true ∧ ((s0.runEvs evs).map (fun s => s.readers.map (·.reach))) = some [[2, 4]] := by
  decide +kernel

end Jamm.Props.C03
