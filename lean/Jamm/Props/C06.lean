/-
C06 — uncommitted and failed work leaves no trace.

(a) every specification operation that returns an error leaves the state unchanged (the model of
    "a call that returns an error changes nothing"), for all states, paths, keys and values;
(b) a transaction that is dropped leaves the committed state as it was, and later transactions start
    from it (`drop_is_noop`, on the transactional world model);
(c) generated obligations, re-checked against /repo/src on every run: every public method of
    `Bucket` / `Tx` that can mutate starts with the read-only guard (`mutators_guarded`); every public
    method is classified (`api_classified`: a new method must be added to the table, mutating or not);
    every function of the crate that calls an inner mutator — cursors, iterator adaptors and the database
    handle included — is one of those guarded methods, `Tx::commit`, or an inner function below them
    (`mutation_only_below_the_guarded_api`);
    only `write_data`, `resize` and `init_file` touch the file (`file_mutation_only_in_commit`); only
    `write_data` (and the initial load in `open`) assign the shared free list (`shared_freelist_only_at_commit`);
    a handle's `writable` flag is copied from its parent (`handles_inherit_writability`); `commit` refuses a
    read-only transaction first (`commit_guard_first`).
The byte-level half ("the file's bytes are unchanged") is decided by the correspondence run, which
hashes the real file around rollbacks, failed calls, read-only use and reopen.
-/
import Jamm.Model.Spec
import Jamm.Gen.Sites
import Jamm.Gen.Steps

namespace Jamm.Props.C06
open Spec
variable {K V : Type} [Ord K] [DecidableEq K]

theorem put_error_noop (db : DB K V) (p : Path K) (k : K) (v : V) (e : Err)
    (h : (put db p k v).1 = .error e) : (put db p k v).2 = db := by
  -- branch by branch: the state is `db` (`rfl`), or the call succeeds and `h` is absurd (`cases h`)
  unfold put at *
  split at h
  · rfl
  · split at h
    · rfl
    · cases h
    · cases h

-- `[Ord K]` of the file's context is an argument of this statement and is not used
set_option linter.unusedSectionVars false in
theorem delete_error_noop (db : DB K V) (p : Path K) (k : K) (e : Err)
    (h : (delete db p k).1 = .error e) : (delete db p k).2 = db := by
  unfold delete at *
  split at h
  · rfl
  · split at h
    · rfl
    · rfl
    · cases h

theorem bucketGetter_error_noop (db : DB K V) (p : Path K) (name : K) (sc mc : Bool) (e : Err)
    (h : (bucketGetter db p name sc mc).1 = .error e) : (bucketGetter db p name sc mc).2 = db := by
  unfold bucketGetter at *
  split at h
  · rfl
  · split at h
    · cases mc <;> rfl
    · rfl
    · cases sc
      · rfl
      · cases h

-- `[Ord K]` of the file's context is an argument of this statement and is not used
set_option linter.unusedSectionVars false in
theorem deleteBucket_error_noop (db : DB K V) (p : Path K) (name : K) (e : Err)
    (h : (deleteBucket db p name).1 = .error e) : (deleteBucket db p name).2 = db := by
  unfold deleteBucket at *
  split at h
  · rfl
  · split at h
    · rfl
    · rfl
    · cases h

/-- `get_bucket` never changes the state, whatever it returns -/
theorem getBucket_pure (db : DB K V) (p : Path K) (name : K) :
    (bucketGetter db p name false false).2 = db := by
  unfold bucketGetter
  split
  · rfl
  · split <;> rfl

inductive TxEnd where | commit | drop

/-- a write transaction works on a private copy; only `commit` installs it -/
def endTx (w : World K V) (working : DB K V) : TxEnd → World K V
  | .commit => { committed := working }
  | .drop => w

-- `[Ord K] [DecidableEq K]` of the file's context are arguments of the next two statements and are not used
set_option linter.unusedSectionVars false in
theorem drop_is_noop (w : World K V) (working : DB K V) : endTx w working .drop = w := rfl

set_option linter.unusedSectionVars false in
theorem commit_installs (w : World K V) (working : DB K V) :
    (endTx w working .commit).committed = working := rfl

theorem mutators_guarded : MutatorsGuarded Gen.api = true := by decide

/-- the classification every public method must appear in: `true` = may mutate -/
def classification : List (String × Bool) :=
  [("Bucket::put", true), ("Bucket::get", false), ("Bucket::get_kv", false), ("Bucket::delete", true),
   ("Bucket::get_bucket", false), ("Bucket::create_bucket", true), ("Bucket::get_or_create_bucket", true),
   ("Bucket::delete_bucket", true), ("Bucket::cursor", false), ("Bucket::next_int", false),
   ("Bucket::buckets", false), ("Bucket::kv_pairs", false), ("Bucket::range", false),
   ("Tx::get_bucket", false), ("Tx::create_bucket", true), ("Tx::get_or_create_bucket", true),
   ("Tx::delete_bucket", true), ("Tx::buckets", false), ("Tx::commit", true)]

theorem api_classified :
    Gen.api.all (fun f => classification.contains (f.name, f.mutates)) = true := by
  -- `+kernel` on the larger string tables: plain `decide` evaluates in the elaborator and then again in the
  -- kernel, and comparing strings is slow in both
  decide +kernel

theorem file_mutation_only_in_commit :
    Gen.fileMutators.all (fun f => ["db.rs:init_file", "db.rs:resize", "tx.rs:write_data"].contains f) = true := by
  decide

/-- mutation is reachable only through the guarded API: every function of the crate (whatever type it belongs
to — a cursor, an iterator adaptor, the database handle) that calls an inner mutator is one of the guarded
public methods of `Bucket` / `Tx` (`mutators_guarded`), `Tx::commit`, or an inner function below them -/
theorem mutation_only_below_the_guarded_api :
    Gen.mutatorCallSites.all (fun f =>
      ["bucket.rs:put", "bucket.rs:delete", "bucket.rs:create_bucket", "bucket.rs:get_or_create_bucket", "bucket.rs:delete_bucket",
       "tx.rs:create_bucket", "tx.rs:get_or_create_bucket", "tx.rs:delete_bucket", "tx.rs:commit",
       -- inner functions, reached only from the ones above
       "bucket.rs:put_leaf", "bucket.rs:bucket_getter", "bucket.rs:node", "bucket.rs:rebalance", "bucket.rs:merge_nodes", "bucket.rs:spill",
       "tx.rs:write_data", "db.rs:resize", "db.rs:init_file", "node.rs:spill", "node.rs:write", "node.rs:allocate", "node.rs:free_page",
       "freelist.rs:free", "freelist.rs:allocate"].contains f) = true := by
  decide +kernel

theorem shared_freelist_only_at_commit :
    Gen.sharedFreelistWriters.all (fun f => ["db.rs:open", "tx.rs:write_data"].contains f) = true := by decide

/-- a handle is writable only if the handle or transaction it was derived from is: the flag is copied
(`self.writable`, `b.writable`, `self.c.writable`, `tx.lock.writable()`), and the literal `true` occurs
only in the two `Tx` methods that have already refused a read-only transaction -/
theorem handles_inherit_writability :
    Gen.writableSources.all (fun e =>
      ["self.writable", "b.writable", "self.c.writable", "tx.lock.writable()"].contains e.2 ||
      (e.2 == "true" && ["tx.rs:create_bucket", "tx.rs:get_or_create_bucket"].contains e.1)) = true := by
  decide +kernel

/-- `commit` itself refuses a read-only transaction before doing anything -/
theorem commit_guard_first : Gen.commitOuter.head? = some .guardWritable := by decide

/-- non-vacuity: a failing and a succeeding call on a concrete state -/
example : (put (K := Nat) (V := Nat) [([], { nextInt := 1, items := [(5, .bkt)] })] [] 5 7).1 = .error .incompatibleValue ∧
    (put (K := Nat) (V := Nat) [([], { nextInt := 1, items := [(5, .bkt)] })] [] 6 7).1 = .ok none := by
  constructor <;> rfl

end Jamm.Props.C06
