/-
C14 — borrowed data cannot outlive its transaction; handles stay on their thread.

This property is about rustc's type checker, which a Lean development cannot be.  What is logic is the
signature-level discipline (`Jamm/Model/Api.lean`), evaluated over the table the translator regenerates
from nightly rustdoc JSON on every run:
* `discipline_holds_except_known`: every public method or trait method of every handed-out type (Tx,
  Bucket, Cursor, Range, Buckets, KVPairs, KVPair, Data, BucketName) whose result can hold bytes of the
  memory map returns a type that is transaction-bounded — except the listed known edges;
* `known_edges_are_open` (OPEN FINDING D13): `BucketName → ToBytes::to_bytes → Bytes<'tx>` (by value and
  by reference) drops the transaction borrow `'b`: safe code can keep the bytes past the transaction;
* `tx_bounded_by_db`: `DB::tx` returns a transaction borrowed from the handle;
* `every_public_mapped_type_is_handed_out`: the list of handed-out types is derived, not chosen: every public
  type that (through its private fields, transitively) can hold `Bytes` or the map is on it;
* `handles_not_send`, `db_is_send`: every handed-out type is `!Send` by the auto-trait evaluation over the
  regenerated (private) fields — except the generic wrapper `KVPairs<I>`, which is `Send` exactly when the
  iterator it wraps is (`kvpairs_is_its_iterator`); `DB` is `Send`.
LABELLED PARTIAL: the region rule is an abstraction of the borrow checker, validated only on the
generated corpus (one escape program per table row + hand-written escape routes + positive controls,
type-checked by the real rustc on every run); variance, higher-ranked bounds and drop-check are not
modelled.
-/
import Jamm.Gen.Api
import Jamm.Proofs.ApiClosure

namespace Jamm.Props.C14

def handedOut : List String := ["Tx", "Bucket", "Cursor", "Range", "Buckets", "KVPairs", "KVPair", "Data", "BucketName"]

/-- the known edges (D13) -/
def knownEdges : List (String × String) := [("BucketName", "to_bytes")]

theorem discipline_holds_except_known :
    Gen.apiMethods.all (fun m => !handedOut.contains m.owner || methodOk m || knownEdges.contains (m.owner, m.name)) = true := by
  -- `+kernel` throughout this file: plain `decide` evaluates in the elaborator and then again in the kernel,
  -- and comparing strings is slow in both
  decide +kernel

theorem known_edges_are_open :
    (Gen.apiMethods.filter (fun m => m.owner == "BucketName" && m.name == "to_bytes")).all (fun m => m.outMapped && !outBounded m) = true ∧
    (Gen.apiMethods.filter (fun m => m.owner == "BucketName" && m.name == "to_bytes")).length = 2 := by
  decide +kernel

theorem tx_bounded_by_db :
    (Gen.apiMethods.filter (fun m => m.owner == "DB" && m.name == "tx")).all outBounded = true := by decide +kernel

/-- The `!Send` closure, evaluated once for the two theorems below (within one evaluation the kernel shares
it), and only up to its first fixed point (`notSend_eq_iterStop`). -/
theorem send_table :
    (handedOut.filter (· != "KVPairs")).all (fun t => notSend Gen.apiTypes t) = true ∧
      notSend Gen.apiTypes "DB" = false := by
  simp only [notSend_eq_iterStop]
  decide +kernel

theorem handles_not_send :
    (handedOut.filter (· != "KVPairs")).all (fun t => notSend Gen.apiTypes t) = true := send_table.1

/-- `KVPairs<I>` is a wrapper around the iterator it filters (a `Cursor` or a `Range`, both `!Send`): its
only field is the type parameter, so it is `Send` exactly when that iterator is -/
theorem kvpairs_is_its_iterator :
    (Gen.apiTypes.filter (fun t => t.name == "KVPairs")).map (·.fields) = [[["param:I"]]] := by decide +kernel

theorem db_is_send : notSend Gen.apiTypes "DB" = false := send_table.2

/-- every handed-out type is present in the regenerated table (a renamed or removed type breaks this) -/
theorem handed_out_types_exist : handedOut.all (fun t => Gen.apiTypes.any (fun a => a.name == t && a.isPublic)) = true := by
  decide +kernel

/-- the closure `mappedTypes`, evaluated once for the two theorems below, up to its first fixed point -/
theorem mapped_table :
    (Gen.apiTypes.filter (fun t => t.isPublic && (mappedTypes Gen.apiTypes).contains t.name)).all
        (fun t => handedOut.contains t.name || t.name == "Bytes") = true ∧
      (handedOut.filter (· != "KVPairs")).all (fun t => (mappedTypes Gen.apiTypes).contains t) = true := by
  rw [mappedTypes_eq_iterStop]
  decide +kernel

/-- the list of handed-out types is not chosen by hand: every PUBLIC type of the crate that can hold bytes
of the memory map — by the closure over the regenerated private fields, seeded with `Bytes` and the map —
is one of them (or `Bytes` itself, the payload, whose own lifetime parameter is what the owners' signatures
bound).  A new public type that hands out mapped bytes breaks this until it is classified. -/
theorem every_public_mapped_type_is_handed_out :
    (Gen.apiTypes.filter (fun t => t.isPublic && (mappedTypes Gen.apiTypes).contains t.name)).all
      (fun t => handedOut.contains t.name || t.name == "Bytes") = true := mapped_table.1

/-- … and conversely every handed-out type is in that closure (`KVPairs<I>` through its parameter only) -/
theorem handed_out_types_hold_mapped_bytes :
    (handedOut.filter (· != "KVPairs")).all (fun t => (mappedTypes Gen.apiTypes).contains t) = true := mapped_table.2

theorem every_public_type_with_a_lifetime_is_classified :
    (Gen.apiTypes.filter (fun t => t.isPublic && !t.lifetimes.isEmpty)).all
      (fun t => handedOut.contains t.name || t.name == "Bytes") = true := by decide +kernel

end Jamm.Props.C14
