/-
C07 — a write transaction reads its own uncommitted changes.

Model: inside a transaction a bucket's tree is the committed tree with some leaves edited (possibly
emptied); branch entries are never edited before commit (`bucket.rs` `put_leaf`/`delete`, see
`Jamm/Model/Tree.lean`).  Theorems, for every well-formed starting tree, every sequence of edits and
every key: the edited tree's contents are the reference map's contents after the same operations,
the tree stays well-formed (so every read theorem of C08 applies to it, emptied leaves included),
and a point lookup returns what the reference map returns; scans, seeks and ranges on the edited tree are the
reference's (`own_writes_scan/_seek/_range`); and the order-free overlay prediction the correspondence run uses is exact
(`overlay_prediction_is_exact`).
-/
import Jamm.Proofs.TxLemmas
import Jamm.Proofs.CursorRange
import Jamm.Model.FileCheck
import Jamm.Proofs.OverlayLemmas
open Std

namespace Jamm.Props.C07
variable {K E : Type} [Ord K] [TransOrd K] [LawfulEqOrd K] [DecidableEq K]

/-- the contents seen after any sequence of puts and deletes are the reference's -/
theorem own_writes_contents (t : Tree K E) (h : WF none none t) (ops : List (TxOp K E)) :
    (ops.foldl Tree.applyOp t).flatten = ops.foldl Spec.applyOp t.flatten :=
  (applyOps_spec t h ops).1

/-- the edited tree is still well-formed: reads on it are covered by the Layer Q theorems -/
theorem own_writes_wf (t : Tree K E) (h : WF none none t) (ops : List (TxOp K E)) :
    WF none none (ops.foldl Tree.applyOp t) :=
  (applyOps_spec t h ops).2

/-- point lookups at any moment of the transaction return the reference's answer -/
theorem own_writes_lookup (t : Tree K E) (h : WF none none t) (ops : List (TxOp K E)) (key : K) :
    (ops.foldl Tree.applyOp t).lookup key =
      (Spec.lookup key (ops.foldl Spec.applyOp t.flatten)).map (fun e => (key, e)) := by
  have h1 := applyOps_spec t h ops
  rw [← h1.1]
  exact lookup_spec none none _ h1.2 key

/-- the contents stay strictly ascending whatever the transaction does -/
theorem own_writes_sorted (t : Tree K E) (h : WF none none t) (ops : List (TxOp K E)) :
    Spec.Sorted (ops.foldl Tree.applyOp t).flatten :=
  flatten_sorted none none _ (applyOps_spec t h ops).2

/-- a full cursor scan at any moment of the transaction yields exactly the reference's contents -/
theorem own_writes_scan (t : Tree K E) (h : WF none none t) (ops : List (TxOp K E)) (n : Nat)
    (hn : (ops.foldl Spec.applyOp t.flatten).length < n) :
    (Cursor.drain n { root := ops.foldl Tree.applyOp t }).1 = ops.foldl Spec.applyOp t.flatten := by
  have h1 := applyOps_spec t h ops
  rw [← h1.1] at hn ⊢
  exact drain_fresh _ h1.2.shp n hn

/-- seek inside the transaction is correct with respect to the reference's contents -/
theorem own_writes_seek (t : Tree K E) (h : WF none none t) (ops : List (TxOp K E)) (key : K) (n : Nat)
    (hn : (ops.foldl Spec.applyOp t.flatten).length < n) :
    let r := Cursor.seek { root := ops.foldl Tree.applyOp t } key
    Spec.SeekOk (ops.foldl Spec.applyOp t.flatten) key r.1 (Cursor.drain n r.2).1 := by
  have h1 := applyOps_spec t h ops
  rw [← h1.1] at hn ⊢
  exact seek_spec _ h1.2 key n hn

/-- every range scan inside the transaction yields exactly the reference's entries within the bounds -/
theorem own_writes_range (t : Tree K E) (h : WF none none t) (ops : List (TxOp K E))
    (lo hi : Spec.Bound K) (n : Nat) (hn : (ops.foldl Spec.applyOp t.flatten).length < n) :
    RangeIt.drain n { c := { root := ops.foldl Tree.applyOp t }, lo := lo, hi := hi } =
      Spec.range (ops.foldl Spec.applyOp t.flatten) lo hi := by
  have h1 := applyOps_spec t h ops
  rw [← h1.1] at hn ⊢
  exact range_spec _ h1.2 lo hi n hn

/-- non-vacuity: emptying the middle leaf of a two-level tree and inserting below the minimum -/
example :
    let t : Tree Nat Nat := .branch 5 (.cons 10 (.leaf 6 [(10, 1)]) (.cons 20 (.leaf 7 [(20, 2)]) (.cons 30 (.leaf 8 [(30, 3)]) .nil)))
    wfb none none t = true ∧
    ([TxOp.del 20, TxOp.put 3 9].foldl Tree.applyOp t).flatten = [(3, 9), (10, 1), (30, 3)] := by
  decide

/-! The tie used by the correspondence run: after every edit of a write transaction the run compares the
real overlay tree (dumped through the feature-gated hook) with `Tree.refill committed (contents)`: the
committed tree with its leaves emptied and every item of the current contents put back.  These theorems say
that this order-free prediction *is* the tree the model's edits produce one by one. -/

set_option linter.unusedSectionVars false in
/-- leaf edits never change the branch structure (keys, page ids) -/
theorem edits_keep_branch_structure (t : Tree K E) (key : K) (e : E) :
    (t.put key e).emptied = t.emptied ∧ (t.del key).emptied = t.emptied :=
  ⟨Tree.emptied_put key e t, Tree.emptied_del key t⟩

/-- for every sequence of edits: the overlay predicted from the committed tree and the final contents is the
tree obtained by applying the edits in order -/
theorem overlay_prediction_is_exact (t0 : Tree K E) (h : WF none none t0) (ops : List (TxOp K E)) :
    t0.refill (ops.foldl Tree.applyOp t0).flatten = ops.foldl Tree.applyOp t0 :=
  refill_eq_edits t0 h ops

end Jamm.Props.C07
