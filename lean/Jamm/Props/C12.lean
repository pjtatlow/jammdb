/-
C12 — damage to one header page falls back to the other.

Header choice (`DBInner::meta`, modelled by `slotValid` / `selectSlots` / `openSelect` in
`Jamm/Model/Codec.lean`, after `3b2e935` "fix: a damaged meta page no longer makes open panic", which treats a wrong
page-type byte as invalid):
* a slot is trusted only if its page-type byte is META and its checksum verifies (`untrusted_*`);
* the chosen header is always one of the two slots as read — never a mix (`choice_is_a_slot`);
* with one slot invalid the other is chosen (`fallback_*`), with both valid the higher transaction id
  (ties: slot 1) (`newest_wins`);
* the checksum covers every field that carries meaning, in the regenerated order (`hash_covers`);
* one damaged byte of the hashed image, or a damaged stored checksum, always invalidates the record
  (`one_damaged_hashed_byte_is_detected`, `damaged_checksum_is_detected`) — no collision assumption is
  needed for single-byte damage because every FNV-1a step is a bijection;
* the same at the level of FILE bytes: changing exactly one byte of a valid header page at any checked offset
  (page-type byte, any byte of a hashed field, any byte of the stored checksum — `checked_offsets_are`, computed
  from the regenerated layout and hash order) invalidates the slot, and a file that agrees on the checked bytes
  keeps the slot with the same record (`one_damaged_file_byte_is_detected`,
  `undamaged_checked_bytes_keep_the_slot`; which file offset feeds which hashed byte is proved, not tested:
  `metaHashInput_readMeta` in `Jamm/Proofs/MetaBytes.lean`);
* the snapshot a commit replaced is not reused before the next writer begins, so the state the other
  header names is complete (`previous_snapshot_intact`).
* the header page a commit writes is read back as exactly the record written, is valid, and nothing outside
  that page is touched, so the other header is as it was (`written_header_reads_back`,
  `written_header_is_valid`, `header_write_is_local`);
* in full: if the other header's state is stored and the damaged page does not verify, `open` shows exactly that state
  (`damaged_header_shows_the_intact_headers_state`, `one_damaged_header_byte_shows_the_other_headers_state`).
Multi-byte damage is covered under the explicit hypothesis that the damaged record's checksum does not
collide (`damaged_header_shows_the_intact_headers_state`, hypothesis `hbad`; evaluated, not assumed, for every image the
correspondence run creates).
-/
import Jamm.Gen.HashOrder
import Jamm.Proofs.FreelistLemmas
import Jamm.Proofs.CommitFileAtomic
import Jamm.Proofs.GenLayout

namespace Jamm.Props.C12

theorem choice_is_a_slot (v0 v1 : Option MetaRec) (ps : Nat) (m : MetaRec)
    (h : selectSlots v0 v1 ps = .ok (some m)) : v0 = some m ∨ v1 = some m := by
  unfold selectSlots at h
  cases v0 <;> cases v1 <;> simp at h <;> (repeat' split at h) <;> simp_all

theorem fallback_to_slot1 (b : MetaRec) (ps : Nat) (hp : b.pagesize = ps) :
    selectSlots none (some b) ps = .ok (some b) :=
  selectSlots_none_some b ps hp

theorem fallback_to_slot0 (a : MetaRec) (ps : Nat) (hp : a.pagesize = ps) :
    selectSlots (some a) none ps = .ok (some a) :=
  selectSlots_some_none a ps hp

theorem newest_wins (a b : MetaRec) (ps : Nat) (ha : a.pagesize = ps) (hb : b.pagesize = ps) :
    selectSlots (some a) (some b) ps = .ok (some (if a.txId > b.txId then a else b)) :=
  selectSlots_some_some a b ps ha hb

theorem both_invalid_is_refused (L : Layout) (order : List MetaField) (s : Src) (ps : Nat)
    (h0 : slotValid L order s ps 0 = none) (h1 : slotValid L order s ps 1 = none) :
    openSelect L order s ps = .error .noValidMeta := by
  simp [openSelect, selectSlots, h0, h1]

theorem untrusted_without_meta_type (L : Layout) (order : List MetaField) (s : Src) (ps slot : Nat)
    (h : (s.get (slot * ps + L.pgType)).toNat ≠ L.typeMeta) : slotValid L order s ps slot = none :=
  slotValid_none_of_type L order s ps slot h

theorem untrusted_without_checksum (L : Layout) (order : List MetaField) (s : Src) (ps slot : Nat)
    (h : metaValid L order (readMeta L s (slot * ps)) = false) : slotValid L order s ps slot = none := by
  rw [slotValid_eq, h, if_neg Bool.false_ne_true, ite_self, ite_self]

theorem trusted_slot (L : Layout) (order : List MetaField) (s : Src) (ps slot : Nat) (m : MetaRec)
    (h : slotValid L order s ps slot = some m) :
    (s.get (slot * ps + L.pgType)).toNat = L.typeMeta ∧ m = readMeta L s (slot * ps) ∧ metaValid L order m = true := by
  obtain ⟨-, hty, hm, hv⟩ := slotValid_some L order s ps slot m h
  exact ⟨hty, hm, hm ▸ hv⟩

/-- changing exactly one byte of the hashed image always changes the checksum (every FNV-1a step is
a bijection): no collision assumption for single-byte damage -/
theorem checksum_detects_one_byte (pre post : List UInt8) (b b' : UInt8) (hne : b ≠ b') :
    fnv1a (pre ++ b :: post) ≠ fnv1a (pre ++ b' :: post) :=
  fnv_single_byte pre post b b' hne

theorem one_damaged_hashed_byte_is_detected (L : Layout) (order : List MetaField) (m m' : MetaRec)
    (hv : metaValid L order m = true) (hh : m'.hash = m.hash)
    (pre post : List UInt8) (b b' : UInt8) (hne : b ≠ b')
    (h1 : metaHashInput L order m = pre ++ b :: post) (h2 : metaHashInput L order m' = pre ++ b' :: post) :
    metaValid L order m' = false :=
  one_hashed_byte_invalidates L order m m' hv hh pre post b b' hne h1 h2

theorem damaged_checksum_is_detected (L : Layout) (order : List MetaField) (m m' : MetaRec)
    (hv : metaValid L order m = true) (hne : m'.hash ≠ m.hash)
    (hf : metaHashInput L order m' = metaHashInput L order m) : metaValid L order m' = false :=
  damaged_checksum_invalidates L order m m' hv hne hf

/-- the checked offsets of a header page under the regenerated layout and hash order, relative to the start
of the page: the page-type byte 8, the record bytes 32..43 (meta page, magic, version) and 48..95 (page size,
root page, next int, number of pages, free-list page, transaction id), the stored checksum 96..103 -/
theorem checked_offsets_are :
    checkedOffsets Gen.layout Gen.hashOrder = 8 :: (List.range' 32 12 ++ List.range' 48 56) := by decide

/-- the bytes of the first `pgPtr + metaSize` = 104 bytes of a header page that are NOT checked: the page
header's id (0..7), the padding after the type byte and count / overflow (9..31), and the padding between
`version` and `pagesize` in the record (44..47) — none of them is read by `slotValid` / `readMeta` -/
theorem unchecked_offsets_are :
    (List.range (Gen.layout.pgPtr + Gen.layout.metaSize)).filter (fun o => !(checkedOffsets Gen.layout Gen.hashOrder).contains o) =
      List.range' 0 8 ++ List.range' 9 23 ++ List.range' 44 4 := by decide +kernel

/-- premise of `one_damaged_file_byte_invalidates`, not a claim of the property: a changed file byte at a checked offset
feeds exactly one byte of the checked image -/
theorem checked_offsets_distinct : (checkedOffsets Gen.layout Gen.hashOrder).Nodup := by
  rw [checked_offsets_are, List.nodup_cons, List.nodup_append]
  refine ⟨?_, List.nodup_range', List.nodup_range', ?_⟩
  · simp only [List.mem_append, List.mem_range'_1]; omega
  · intro a ha b hb
    rw [List.mem_range'_1] at ha hb
    omega

/-- premise of `same_checked_bytes_same_slot` and `mem_checkedOffsets`, not a claim of the property -/
theorem hash_order_is_total (f : MetaField) : f ∈ Gen.hashOrder := by cases f <;> decide

/-- every byte of every field that carries meaning is a checked offset -/
theorem checked_offsets_cover_semantic_fields :
    Pinned.semanticFields.all (fun f => (fieldOffsets Gen.layout f).all
      (fun o => (checkedOffsets Gen.layout Gen.hashOrder).contains o)) = true :=
  List.all_eq_true.2 fun f _ => List.all_eq_true.2 fun _ ho =>
    List.contains_iff_mem.2 (mem_checkedOffsets (hash_order_is_total f) ho)

/-- changing exactly ONE byte of the file, at any checked offset of a header page that was valid, makes that
slot invalid — no collision assumption -/
theorem one_damaged_file_byte_is_detected (s s' : Src) (pagesize slot : Nat) (m : MetaRec) (off : Nat)
    (hv : slotValid Gen.layout Gen.hashOrder s pagesize slot = some m)
    (hsz : s'.size = s.size)
    (hsame : ∀ i, i ≠ slot * pagesize + off → s'.get i = s.get i)
    (hdiff : s'.get (slot * pagesize + off) ≠ s.get (slot * pagesize + off))
    (hin : off ∈ checkedOffsets Gen.layout Gen.hashOrder) :
    slotValid Gen.layout Gen.hashOrder s' pagesize slot = none :=
  one_damaged_file_byte_invalidates Gen.layout Gen.hashOrder checked_offsets_distinct s s' pagesize slot m off
    hv hsz hsame hdiff hin

/-- damage outside the checked bytes is harmless: the slot stays valid with the same record -/
theorem undamaged_checked_bytes_keep_the_slot (s s' : Src) (pagesize slot : Nat) (m : MetaRec)
    (hv : slotValid Gen.layout Gen.hashOrder s pagesize slot = some m) (hsz : s'.size = s.size)
    (hsame : ∀ off ∈ checkedOffsets Gen.layout Gen.hashOrder,
      s'.get (slot * pagesize + off) = s.get (slot * pagesize + off)) :
    slotValid Gen.layout Gen.hashOrder s' pagesize slot = some m :=
  same_checked_bytes_same_slot Gen.layout Gen.hashOrder hash_order_is_total s s' pagesize slot m hv hsz hsame

/-- non-vacuity of the two theorems' hypothesis: the header page the writer produces for a sealed record is a
valid slot -/
example :
    let m : MetaRec := { metaPage := 1, magic := 0xABCDEF, version := 1, pagesize := 256, rootPage := 3, nextInt := 0,
                         numPages := 4, freelistPage := 2, txId := 5, hash := 0 }
    let m1 := MetaRec.seal Gen.layout Gen.hashOrder m
    slotValid Gen.layout Gen.hashOrder (writeMetaPage Gen.layout 256 1 m1 ⟨512, fun _ => 0⟩) 256 1 = some m1 := by
  decide +kernel

/-- after a commit, no page of the snapshot it replaced is free, and the commit wrote none of them:
the state named by the other header is complete until the next writer begins -/
theorem previous_snapshot_intact (s : Sys) (w : WriterTx) (hi : s.invB = true)
    (hc : s.clientOkB (.commitW w) = true) :
    disjointB s.cur.reach (s.step (.commitW w)).shared.free = true ∧ disjointB s.cur.reach (s.writes w) = true :=
  ⟨(disjointB_iff _ _).2 (prev_snapshot_not_free ((invB_iff s).1 hi) w), commit_is_cow s w hi hc⟩

/-- non-vacuity: a concrete valid record; flipping one bit of its transaction id invalidates it -/
example :
    let m : MetaRec := { metaPage := 0, magic := 0xABCDEF, version := 1, pagesize := 1024, rootPage := 3, nextInt := 0,
                         numPages := 4, freelistPage := 2, txId := 5, hash := 0 }
    let m1 := { m with hash := metaHash Gen.layout Gen.hashOrder m }
    metaValid Gen.layout Gen.hashOrder m1 = true ∧ metaValid Gen.layout Gen.hashOrder { m1 with txId := 4 } = false := by
  decide +kernel

/-- every field that carries meaning is fed to the checksum (regenerated from `Meta::hash_self`) -/
theorem hash_covers : Pinned.semanticFields.all (fun f => Gen.hashOrder.contains f) = true := by decide

/-- the generated layout keeps the page-type byte and the record inside the first 104 bytes -/
theorem record_location : Gen.layout.pgType = 8 ∧ Gen.layout.pgPtr = 32 ∧ Gen.layout.metaSize = 72 := by decide

/-- the layout premise (`Layout.WFM`) of the header-page theorems below, decided for the regenerated layout -/
theorem layout_fit_for_header_roundtrip : Layout.WFMeta Gen.layout = true := genLayout_wfMeta

theorem written_header_reads_back (pagesize slot : Nat) (m : MetaRec) (s : Src)
    (hfile : slot * pagesize + pagesize ≤ s.size)
    (hrec : Gen.layout.pgPtr + Gen.layout.metaSize ≤ pagesize) (hhdr : Gen.layout.pageSize ≤ pagesize)
    (hslot : slot < 2 ^ 64) (hm : m.fits Gen.layout = true) :
    decodePage Gen.layout (writeMetaPage Gen.layout pagesize slot m s) pagesize slot =
      .ok { id := slot, overflow := 0, count := 0, body := .hdr m } :=
  decode_writeMetaPage genLayout_wfm pagesize slot m s hfile hrec hhdr hslot hm

theorem written_header_is_valid (m : MetaRec) :
    metaValid Gen.layout Gen.hashOrder (MetaRec.seal Gen.layout Gen.hashOrder m) = true :=
  seal_valid Gen.layout Gen.hashOrder m

/-- writing one header page changes no byte of any other page — in particular not the other header -/
theorem header_write_is_local (pagesize slot : Nat) (m : MetaRec) (s : Src) (i : Nat)
    (hrec : Gen.layout.pgPtr + Gen.layout.metaSize ≤ pagesize)
    (h : i < slot * pagesize ∨ slot * pagesize + pagesize ≤ i) :
    (writeMetaPage Gen.layout pagesize slot m s).get i = s.get i :=
  writeMetaPage_frame genLayout_wfm hrec slot m s h

/-- if the state of the intact header is stored under `slot` and the other header page no longer verifies —
whatever happened to it — `open` shows that state in full: every bucket at every nesting depth with its keys,
values and counters, and the persisted free list.  (`Holds`, `KeepsState`, `openFile`: `Proofs/CommitFileLemmas`,
`Model/CommitFile`; that a completed commit leaves BOTH states stored, the previous one under the old slot, is
`Jamm.Props.C02.header_write_switches_states`.) -/
theorem damaged_header_shows_the_intact_headers_state (pagesize : Nat)
    (hrec : Gen.layout.pgPtr + Gen.layout.metaSize ≤ pagesize) (ov : Nat → Nat) (s d : Src) (slot : Nat)
    (hslot : slot = 0 ∨ slot = 1) (st : Opened)
    (h : Holds Gen.layout Gen.hashOrder pagesize ov s slot st)
    (k : KeepsState pagesize ov s d slot st)
    (hbad : slotValid Gen.layout Gen.hashOrder d pagesize (1 - slot) = none)
    (fuel : Nat) (hf : st.view.weight ≤ fuel) :
    openFile Gen.layout Gen.hashOrder pagesize fuel d = some st := by
  exact crash_shows_old Gen.layout Gen.hashOrder pagesize genLayout_wf genLayout_wfm hrec (genLayout_hdr_le hrec)
    ov s d slot hslot st h k (.of_none hbad) fuel hf

/-- ONE changed byte, at any checked offset of one header page that verified: `open` shows, in full, the state of
the other header — no collision assumption, any page size, any database -/
theorem one_damaged_header_byte_shows_the_other_headers_state (pagesize : Nat)
    (hrec : Gen.layout.pgPtr + Gen.layout.metaSize ≤ pagesize) (ov : Nat → Nat) (s d : Src) (slot : Nat)
    (hslot : slot = 0 ∨ slot = 1) (st : Opened) (m : MetaRec) (off : Nat)
    (h : Holds Gen.layout Gen.hashOrder pagesize ov s slot st) (habove : ∀ r ∈ st.runs ov, 2 ≤ r.1)
    (hv : slotValid Gen.layout Gen.hashOrder s pagesize (1 - slot) = some m)
    (hsz : d.size = s.size)
    (hsame : ∀ i, i ≠ (1 - slot) * pagesize + off → d.get i = s.get i)
    (hdiff : d.get ((1 - slot) * pagesize + off) ≠ s.get ((1 - slot) * pagesize + off))
    (hin : off ∈ checkedOffsets Gen.layout Gen.hashOrder) (hoff : off < pagesize)
    (fuel : Nat) (hf : st.view.weight ≤ fuel) :
    openFile Gen.layout Gen.hashOrder pagesize fuel d = some st := by
  have hbad := one_damaged_file_byte_is_detected s d pagesize (1 - slot) m off hv hsz hsame hdiff hin
  refine damaged_header_shows_the_intact_headers_state pagesize hrec ov s d slot hslot st h
    (keepsState_of_header_page ov s d slot hslot st hsz (fun i hi => hsame i ?_) habove) hbad fuel hf
  -- the damaged byte lies inside the other header page
  have := runOut_page.1 hi
  omega

end Jamm.Props.C12
