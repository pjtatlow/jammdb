/-
C11 — a commit that reports an I/O error neither corrupts nor half-applies.

* every file operation of `write_data` propagates its error (checked by the translator, which refuses
  to regenerate the step list otherwise) and `commit` can fail only at the fallible steps;
* a failure leaves on disk a *kill* image of the operations issued so far, hence the previous or the
  new commit, complete (`failed_commit_is_atomic`, from C02's kill theorem, including a short header
  write);
* the in-memory shared free list is published iff this transaction's header is the visible one, at
  every failure point of the regenerated step order and on success (`generated_order_fault_consistent`,
  decided by evaluation over all failure points and both outcomes of a partial header write);
  `pinned_order_fault_inconsistent` and `publish_after_write_insufficient` are the machine-checked
  witnesses of the repaired defect (D9) and of why the obvious smaller repair would not have been enough.
What the Lean part does NOT carry (it is `FaultSt`, three booleans, folded over the step list): that `commit` returns `Err` and
does not panic, the state of the map after a failed `resize`, the fallible header re-read inside the
publication guard, and a quiescent disk after a failed final sync — these are what the fault runs decide,
per case: the shim reports whether it delivered an error and the driver demands that `commit` returned it.
`failed_commit_is_atomic` / `failed_header_write_is_atomic` are instances of C02's kill / crash theorems;
the content specific to C11 is `FaultConsistent` on the regenerated order and its two negative witnesses.
AT THE LEVEL OF FILE BYTES (`Model/CommitFile.lean`, `Proofs/CommitFile*.lean`, regenerated layout and checksum order):
* `failed_data_write_shows_previous_state`: whatever a commit that failed before its header write left in the
  file — any of its data writes, complete, short or not at all — `open` (same handle through the map, or a reopen)
  shows exactly the previous state, as long as no write touched a page that state owns (evaluated per commit);
* `failed_header_write_shows_old_or_new`: whatever a failed or short header write left inside the header page,
  `open` shows exactly the previous or exactly the new state, provided the page does not verify as a third
  record (NoTornCollision, evaluated on every short write the shim delivers: the reopened state must be one of
  the two).
Tie: every write / fsync index of real commits is failed through the LD_PRELOAD shim (EIO, ENOSPC after
a short write), extension through RLIMIT_FSIZE; afterwards the visible state must be exactly before or
after, the Lean file checker and DB::check must pass, three more commits and a reopen must refine the
specification.
-/
import Jamm.Proofs.IoLemmas
import Jamm.Proofs.CommitFileAtomic
import Jamm.Proofs.GenLayout
import Jamm.Gen.HashOrder

namespace Jamm.Props.C11

theorem generated_order_fault_consistent : FaultConsistent Gen.commitSteps = true := by decide

/-- whatever prefix of the commit's operations was issued before the failure, the file shows the
previous or the new commit, complete -/
theorem failed_commit_is_atomic (c : CommitCtx) (hc : c.Ok) (k : Nat) :
    Atomic c ((({ durable := c.img0, pending := [] } : Disk).run ((safeShape c).take k)).kill) :=
  kill_atomic c hc k

/-- a header write that fails after a short write leaves either the old slot content or a torn slot or
the full header: the power-loss theorem with the header's fate covers all three.  `c.dirty.length + 2`: all data
writes, the sync, the header write; after the sync only the header is pending, so one fate -/
theorem failed_header_write_is_atomic (c : CommitCtx) (hc : c.Ok) (fate : Fate) :
    Atomic c ((({ durable := c.img0, pending := [] } : Disk).run ((safeShape c).take (c.dirty.length + 2))).crash [fate]) :=
  crash_atomic c hc (c.dirty.length + 2) [fate]

/-- C02's `generated_order_is_safe`, repeated here because the two theorems above are about `safeShape` -/
theorem generated_order_is_safe_shape (c : CommitCtx) :
    commitOps Gen.commitSteps c.dirty (1 - c.slot) c.hpost = safeShape c :=
  commitOps_generated _ _ _

/-- D9 (repaired): publishing only after the final sync leaves a visible header with a stale free list -/
theorem pinned_order_fault_inconsistent :
    FaultConsistent [.freeOldFreelist, .allocFreelist, .grow, .writeData, .strictCheck, .writeMeta, .flush, .sync, .publishFreelist] = false := by
  decide

/-- publishing right after the header `write_all` returned would not have been enough: a header write
that reports an error can already have made the header visible -/
theorem publish_after_write_insufficient :
    FaultConsistent [.freeOldFreelist, .allocFreelist, .grow, .writeData, .sync, .strictCheck, .writeMeta, .publishFreelist, .flush, .sync] = false := by
  decide

/-- a commit that failed before its header write: any byte source that keeps the previous state's bytes and both
header pages shows exactly the previous state -/
theorem failed_data_write_shows_previous_state (pagesize : Nat)
    (hrec : Gen.layout.pgPtr + Gen.layout.metaSize ≤ pagesize) (ov : Nat → Nat) (s c : Src) (slot : Nat)
    (hslot : slot = 0 ∨ slot = 1) (old : Opened)
    (h : Committed Gen.layout Gen.hashOrder pagesize ov s slot old)
    (k : KeepsState pagesize ov s c slot old)
    (hother : Src.AgreeOn s c ((1 - slot) * pagesize) ((1 - slot) * pagesize + pagesize))
    (fuel : Nat) (hf : old.view.weight ≤ fuel) :
    openFile Gen.layout Gen.hashOrder pagesize fuel c = some old :=
  committed_survives genLayout_wf genLayout_wfm hrec
    (genLayout_hdr_le hrec) ov s c slot hslot old h k (.inl hother) fuel hf

/-- a header write that failed or came up short: whatever is now inside the new header page, as long as it does
not verify as a third record, `open` shows exactly the previous or exactly the new state -/
theorem failed_header_write_shows_old_or_new (pagesize : Nat)
    (hrec : Gen.layout.pgPtr + Gen.layout.metaSize ≤ pagesize) (ov ov' : Nat → Nat) (s1 d : Src) (slot : Nat)
    (hslot : slot = 0 ∨ slot = 1) (old new : Opened)
    (hold : Holds Gen.layout Gen.hashOrder pagesize ov s1 slot old) (habove : ∀ r ∈ old.runs ov, 2 ≤ r.1)
    (hst : StoredV Gen.layout pagesize ov' s1 new.view)
    (hfl : ∃ p, decodePage Gen.layout s1 pagesize new.hdr.freelistPage = .ok p ∧ p.body = .freelist new.free ∧
      p.overflow = new.flOverflow)
    (c : HeaderOK Gen.layout Gen.hashOrder pagesize ov' s1 old new)
    (hsz : d.size = s1.size)
    (hout : ∀ i, i < (1 - slot) * pagesize ∨ (1 - slot) * pagesize + pagesize ≤ i → d.get i = s1.get i)
    (hno : slotValid Gen.layout Gen.hashOrder d pagesize (1 - slot) = none ∨
      slotValid Gen.layout Gen.hashOrder d pagesize (1 - slot) = some new.hdr)
    (fuel : Nat) (hfo : old.view.weight ≤ fuel) (hfn : new.view.weight ≤ fuel) :
    openFile Gen.layout Gen.hashOrder pagesize fuel d = some old ∨
    openFile Gen.layout Gen.hashOrder pagesize fuel d = some new :=
  incomplete_header_write_old_or_new Gen.layout Gen.hashOrder pagesize genLayout_wfEnc genLayout_wfMeta hrec
    (genLayout_hdr_le hrec) ov ov' s1 d slot hslot old new hold habove hst hfl c hsz hout hno fuel hfo hfn

end Jamm.Props.C11
