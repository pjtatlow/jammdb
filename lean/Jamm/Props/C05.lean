/-
C05 — every committed file is well-formed and accounts for each page exactly once.

What is proved here (for all trees / page lists):
* the executable checker `wfb` that the correspondence run evaluates on the *real bytes* of the file
  after every commit is sound for `WF` (`checker_sound`), hence every tree it accepts has strictly
  ascending contents inside its bounds (`checked_contents_sorted`) and is read back correctly by the
  model of the code's search (`checked_tree_lookup`);
* the accounting test of `checkFile` (sorted concatenation of reached runs, free-list run and
  free-list entries equals `2 .. numPages-1`) holds iff those pages are pairwise distinct and are
  exactly the pages below the high-water mark (`accounting_exact`).
* the whole executable check is sound (`file_check_is_sound`), and the database's own check, as modelled,
  accepts whatever it accepts (`own_check_agrees`);
* the page / free-list-page writers are inverse to the decoder and local (`*_roundtrip`, `page_write_is_local`).
Layer C: the model of one bucket's commit — replay of the reported `rebalance` steps, touches, then `spill` —
keeps the tree invariant for every tree, step list and page size, and — PROVIDED the replayed steps leave no
childless branch, which the run evaluates on every replay — yields a well-formed tree with strictly ascending
contents (`commit_keeps_tree_wellformed`); its pages: what it keeps are pages of the overlay, the overlay's
pages split into kept and freed, requests are non-empty (`commit_keeps_only_overlay_pages`,
`commit_pages_split` — the latter is set algebra over the definition of `commitFreed` once the former is known —,
`requests_nonempty`); and along every history of writers that free only pages of their snapshot each page is
in exactly one of reachable / free / pending (`accounting_exact_along_histories`).
What is *not* proved: that the real commit's allocation sequence is the model's (tied per commit: freed set,
new-page count, exact free-list state), nor one end-to-end theorem "commit yields an accepted file".
-/
import Jamm.Proofs.FileCheckLemmas
import Jamm.Proofs.CommitCompose
import Jamm.Gen.Params
import Jamm.Gen.Layout
import Jamm.Proofs.EncodeLemmas
import Jamm.Model.EncodeWrites
import Jamm.Proofs.EncodeMetaLemmas
import Jamm.Proofs.GenLayout
import Jamm.Proofs.CommitPagesLemmas
import Jamm.Proofs.FreelistLemmas
import Jamm.Proofs.CheckFileSound
import Jamm.Proofs.ImplCheckOwns
open Std

namespace Jamm.Props.C05
variable {K E : Type} [Ord K] [TransOrd K] [LawfulEqOrd K] [DecidableEq K]

theorem checker_sound (t : Tree K E) (h : wfb none none t = true) : WF none none t :=
  wfb_sound none none t h

theorem checked_contents_sorted (t : Tree K E) (h : wfb none none t = true) : Spec.Sorted t.flatten :=
  flatten_sorted none none t (wfb_sound none none t h)

theorem checked_tree_lookup (t : Tree K E) (h : wfb none none t = true) (key : K) :
    t.lookup key = (Spec.lookup key t.flatten).map (fun e => (key, e)) :=
  lookup_spec none none t (wfb_sound none none t h) key

/-- the accounting comparison of `checkFile` is exact: no page twice, none missing, none outside -/
theorem accounting_exact (pages : List Nat) (n : Nat)
    (h : pages.mergeSort (· ≤ ·) = (List.range n).map (· + 2)) :
    pages.Nodup ∧ ∀ p, p ∈ pages ↔ 2 ≤ p ∧ p < n + 2 :=
  Nat.add_comm 2 n ▸ nodup_mem_of_perm_range (h ▸ (List.mergeSort_perm pages _).symm)

/-- non-vacuity: a two-level tree with leftmost slack and an emptied leaf passes the checker -/
example : wfb (K := Nat) (E := Nat) none none
    (.branch 5 (.cons 10 (.leaf 6 [(3, 0), (10, 1)]) (.cons 20 (.leaf 7 []) (.cons 30 (.leaf 8 [(30, 2)]) .nil)))) = true := by
  decide

/-- commit keeps the tree invariant (separators bound their subtrees, uniform depth, no routing gap); when the
replayed rebalance steps leave no childless branch (a hypothesis on the rebalanced tree, evaluated by the run on
every real replay) the committed tree is well-formed, so its contents are strictly ascending -/
theorem commit_keeps_tree_wellformed (pagesize hdr leafHdr branchHdr bmSize : Nat)
    (steps : List RbStep) (touched : List Bytes) (t : Tree Bytes Ent) (h : TreeInv t)
    (hne : nebT ((t.rebalance steps).touchAll touched) = true) :
    WF none none (commitTree Gen.params pagesize hdr leafHdr branchHdr (entSize bmSize) steps touched t) ∧
    Spec.Sorted (commitTree Gen.params pagesize hdr leafHdr branchHdr (entSize bmSize) steps touched t).flatten := by
  have hw := commitTree_wf Gen.params pagesize hdr leafHdr branchHdr (entSize bmSize) genParams_valid genParams_minKeys
    steps touched t h hne
  exact ⟨hw, flatten_sorted none none _ hw⟩

-- `[TransOrd K] [LawfulEqOrd K] [DecidableEq K]` of the file's context are arguments of this statement and are not used
set_option linter.unusedSectionVars false in
/-- the executable forms the correspondence run evaluates on the real trees are sound for the invariant -/
theorem invariant_checkers_sound (t : Tree K E) (h1 : wfsb none none t = true) (h2 : tightB none t = true)
    (d : Nat) (h3 : uniformB t = some d) : TreeInv t :=
  ⟨wfsb_sound none none t h1, tightB_sound none t h2, d, uniformB_sound t d h3⟩

/-! `writeLeafPage` / `writeBranchPage` model `Page::write_node`; the run checks after
every commit that every tree page of the real file holds exactly the bytes this writer produces for the node
the page decodes to. -/

/-- the regenerated layout table satisfies what the round trip needs (fields disjoint, tags distinct) -/
theorem layout_fit_for_roundtrip : Layout.WFEnc Gen.layout = true := genLayout_wfEnc

/-- a leaf node that fits its page run, written with the current layout and decoded again, is the same node:
every key, value, nested-bucket header, for every page size and page id -/
theorem leaf_page_roundtrip (pagesize pid overflow : Nat) (es : List (Bytes × LeafVal)) (s : Src)
    (hfile : pid * pagesize + (overflow + 1) * pagesize ≤ s.size)
    (hfit : leafBytes Gen.layout es ≤ (overflow + 1) * pagesize)
    (hhdr : Gen.layout.pageSize ≤ pagesize) (hid : pid < 2 ^ 64) (hrun : (overflow + 1) * pagesize < 2 ^ 64)
    (hv : ∀ e ∈ es, e.2.fits = true) :
    decodePage Gen.layout (writeLeafPage Gen.layout pagesize pid overflow es s) pagesize pid =
      .ok { id := pid, overflow := overflow, count := es.length, body := .leaf es } :=
  decode_writeLeafPage genLayout_wf hhdr pid overflow es s hfile hfit hid hrun hv

theorem branch_page_roundtrip (pagesize pid overflow : Nat) (es : List (Bytes × Nat)) (s : Src)
    (hfile : pid * pagesize + (overflow + 1) * pagesize ≤ s.size)
    (hfit : branchBytes Gen.layout es ≤ (overflow + 1) * pagesize)
    (hhdr : Gen.layout.pageSize ≤ pagesize) (hid : pid < 2 ^ 64) (hrun : (overflow + 1) * pagesize < 2 ^ 64)
    (hv : ∀ e ∈ es, e.2 < 2 ^ 64) :
    decodePage Gen.layout (writeBranchPage Gen.layout pagesize pid overflow es s) pagesize pid =
      .ok { id := pid, overflow := overflow, count := es.length, body := .branch es } :=
  decode_writeBranchPage genLayout_wf hhdr pid overflow es s hfile hfit hid hrun hv

/-- writing a page changes no byte outside the bytes the node occupies: every other page decodes as before -/
theorem page_write_is_local (pagesize pid overflow : Nat) (es : List (Bytes × LeafVal)) (s : Src) (i : Nat)
    (h : i < pid * pagesize ∨ pid * pagesize + leafBytes Gen.layout es ≤ i) :
    (writeLeafPage Gen.layout pagesize pid overflow es s).get i = s.get i :=
  writeLeafPage_frame genLayout_wf pagesize pid overflow es s i h

/-- the form the run evaluates: the writer is its list of (offset, bytes) writes applied in order -/
theorem writer_is_its_write_list (pagesize pid overflow : Nat) (es : List (Bytes × LeafVal)) (s : Src) :
    writeLeafPage Gen.layout pagesize pid overflow es s =
      applyWrites (leafPageWrites Gen.layout pagesize pid overflow es) s :=
  writeLeafPage_eq Gen.layout pagesize pid overflow es s

/-- the free-list page a commit writes decodes to exactly the page ids written -/
theorem freelist_page_roundtrip (pagesize pid overflow : Nat) (ids : List Nat) (s : Src)
    (hfile : pid * pagesize + (overflow + 1) * pagesize ≤ s.size)
    (hfit : Gen.layout.pgPtr + 8 * ids.length ≤ (overflow + 1) * pagesize)
    (hhdr : Gen.layout.pageSize ≤ pagesize) (hid : pid < 2 ^ 64) (hrun : (overflow + 1) * pagesize < 2 ^ 64)
    (hv : ∀ x ∈ ids, x < 2 ^ 64) :
    decodePage Gen.layout (writeFreelistPage Gen.layout pagesize pid overflow ids s) pagesize pid =
      .ok { id := pid, overflow := overflow, count := ids.length, body := .freelist ids } :=
  decode_writeFreelistPage genLayout_wfm pagesize pid overflow ids s hfile hfit hhdr hid hrun hv

/-! `treeRuns` = every page, with
its overflow run, of every stored node of a tree; the run of a node is what `TxFreelist::allocate` computes for
`Node::size`.  The run checks on every commit that the pages the real commit gave up are exactly
`commitFreed` summed over the buckets the transaction changed (plus all pages of deleted buckets), and that
it took exactly as many new pages as `treeRequests` says. -/

/-- every stored page of the committed tree was a stored page of the overlay: commit never points at a page
it does not own and never keeps a node it rewrote — every list of rebalance steps, every touched key -/
theorem commit_keeps_only_overlay_pages (pagesize : Nat) (steps : List RbStep) (touched : List Bytes)
    (pre : Tree Bytes Ent) :
    ∀ q ∈ treeRuns Gen.layout pagesize (entSize Gen.layout.bmSize)
        (commitTree Gen.params pagesize Gen.layout.pageSize Gen.layout.leafSize
          Gen.layout.branchSize (entSize Gen.layout.bmSize) steps touched pre),
      q ∈ treeRuns Gen.layout pagesize (entSize Gen.layout.bmSize) pre :=
  commitTree_runs_sub steps touched pre

/-- the overlay's pages split exactly into those the committed tree keeps and those the commit frees; the
freed ones are pages of the overlay (the release protocol's client condition), none twice -/
theorem commit_pages_split (pagesize : Nat) (steps : List RbStep) (touched : List Bytes) (pre : Tree Bytes Ent) (q : Nat) :
    let post := commitTree Gen.params pagesize Gen.layout.pageSize Gen.layout.leafSize Gen.layout.branchSize
        (entSize Gen.layout.bmSize) steps touched pre
    q ∈ treeRuns Gen.layout pagesize (entSize Gen.layout.bmSize) pre ↔
      (q ∈ treeRuns Gen.layout pagesize (entSize Gen.layout.bmSize) post ∨
        q ∈ commitFreed Gen.layout pagesize (entSize Gen.layout.bmSize) pre post) :=
  commit_pages_partition steps touched pre q

theorem freed_pages_distinct (pagesize : Nat) (pre post : Tree Bytes Ent)
    (h : (treeRuns Gen.layout pagesize (entSize Gen.layout.bmSize) pre).Nodup) :
    (commitFreed Gen.layout pagesize (entSize Gen.layout.bmSize) pre post).Nodup :=
  commitFreed_nodup pre post h

theorem requests_nonempty (pagesize : Nat) (hps : 0 < pagesize) (t : Tree Bytes Ent) :
    ∀ n ∈ treeRequests Gen.layout pagesize (entSize Gen.layout.bmSize) t, 0 < n :=
  treeRequests_pos hps (by decide) t

/-- "never two of these and never none" at the level of the release protocol: for every history of writers
that free only pages of the snapshot they started from (which the three theorems above say of the commit
model) each page below the high-water mark is in exactly one of reachable / free / pending -/
theorem accounting_exact_along_histories (s : Sys) (evs : List Ev) (s' : Sys) (hi : s.invB = true) (hcov : s.Covers)
    (h : s.runEvs evs = some s') (p : Nat) (h2 : 2 ≤ p) (hp : p < s'.numPages) :
    (p ∈ s'.cur.reach ∧ p ∉ s'.shared.free ∧ p ∉ s'.shared.pendingPages) ∨
    (p ∉ s'.cur.reach ∧ p ∈ s'.shared.free ∧ p ∉ s'.shared.pendingPages) ∨
    (p ∉ s'.cur.reach ∧ p ∉ s'.shared.free ∧ p ∈ s'.shared.pendingPages) :=
  Sys.page_in_exactly_one s' (inv_run s evs s' hi h) (covers_run s evs s' hi hcov h) p h2 hp

/-- soundness of the executable file check that the run evaluates on the real bytes after every commit: if it
accepts, every bucket at every nesting depth unfolds from its root page to a well-formed tree linked to its
parent's bucket entry, and the pages reached through the trees (with overflow runs), the free-list page's run
and the free-list entries are pairwise distinct and are exactly the pages `2 .. numPages-1` — "never two of
these and never none" — in a file long enough to hold them -/
theorem file_check_is_sound (mt : MetaRec) (pg : PageStore) (fileSize pagesize : Nat) (sum : FileSummary)
    (h : checkFile mt pg fileSize pagesize = .ok sum) :
    GoodView pg (mt.numPages + 1) mt.rootPage sum.root ∧
    sum.root.nextInt = mt.nextInt ∧
    sum.reach = expandRuns (sum.root.runs pg) ∧
    (∃ fp, pg mt.freelistPage = some fp ∧ fp.body = .freelist sum.free ∧
      sum.freelistRun = (List.range (fp.overflow + 1)).map (· + mt.freelistPage)) ∧
    (sum.reach ++ sum.freelistRun ++ sum.free).Nodup ∧
    (∀ p, p ∈ sum.reach ++ sum.freelistRun ++ sum.free ↔ 2 ≤ p ∧ p < mt.numPages) ∧
    mt.numPages * pagesize ≤ fileSize :=
  checkFile_sound mt pg fileSize pagesize sum h

/-- "… and the database's own consistency check agrees": `TxInner::check` (`tx.rs:396`, modelled by `implCheck`:
the depth-first walk over a set of unseen page ids) accepts every file the independent checker accepts — no
page reached twice, every overflow page and free-list entry still unseen when visited, keys strictly ascending
within each page, nothing left over at the end.  (So a commit whose file passes the per-commit check is never
rejected by strict mode, C16.) -/
theorem own_check_agrees (mt : MetaRec) (pg : PageStore) (fileSize pagesize : Nat) (sum : FileSummary)
    (h : checkFile mt pg fileSize pagesize = .ok sum) : implCheck mt pg = .ok () :=
  implCheck_of_checkFile mt pg fileSize pagesize sum h

end Jamm.Props.C05
