/-
Forests, generically.  The model's recursive functions that walk to child `i` are functions of `get? i` (`eq_of_get?`)
or instances of `mapAt` (`eq_mapAt`).  `Forest.toList` turns a statement about all children of a branch into one about
the members of a list, so a fact about trees needs one induction (`Tree.ind_toList`) and no forest twin.  For a forest
twin `fooF` / `fooAt` of a tree function `foo` the lemma that removes the twin is `fooF_eq` / `fooAt_eq` / `fooF_iff`.
`Rel₂ R f f'`: the same keys in the same order, the children related by `R` — what an operation that edits children and
leaves the keys alone does to a forest (`Rel₂.mapAt`, `Rel₂.atBranch` in CommitCongr); a property of all children
crosses it by `Rel₂.all`, one that threads the keys by induction on it (`wffs_rel₂`).  `Forest.ind`: `induction` does not
work on the mutual type.  `toList`, `ofList`, `append` are defined in Model/Commit.lean, hence the import.
-/
import Jamm.Model.Commit

namespace Jamm
variable {K E : Type}

namespace Forest

@[elab_as_elim]
theorem ind {motive : Forest K E → Prop} (nil : motive .nil)
    (cons : ∀ k t rest, motive rest → motive (.cons k t rest)) : ∀ f, motive f
  | .nil => nil
  | .cons k t rest => cons k t rest (ind nil cons rest)

def drop : Forest K E → Nat → Forest K E
  | .nil, _ => .nil
  | .cons k t rest, 0 => .cons k t rest
  | .cons _ _ rest, i + 1 => drop rest i

def take : Forest K E → Nat → Forest K E
  | .nil, _ => .nil
  | .cons _ _ _, 0 => .nil
  | .cons k t rest, i + 1 => .cons k t (take rest i)

def mapAt (g : Tree K E → Tree K E) : Forest K E → Nat → Forest K E
  | .nil, _ => .nil
  | .cons k t rest, 0 => .cons k (g t) rest
  | .cons k t rest, i + 1 => .cons k t (mapAt g rest i)

section
variable (k : K) (t : Tree K E) (r : Forest K E) (i : Nat) (g : Tree K E → Tree K E)

@[simp] theorem length_nil : (Forest.nil : Forest K E).length = 0 := rfl
@[simp] theorem length_cons : (Forest.cons k t r).length = r.length + 1 := rfl
@[simp] theorem keys_nil : (Forest.nil : Forest K E).keys = [] := rfl
@[simp] theorem keys_cons : (Forest.cons k t r).keys = k :: r.keys := rfl

@[simp] theorem drop_zero (f : Forest K E) : f.drop 0 = f := by
  cases f <;> rfl

@[simp] theorem drop_cons_succ : (Forest.cons k t r).drop (i + 1) = r.drop i := rfl

@[simp] theorem take_zero (f : Forest K E) : f.take 0 = .nil := by
  cases f <;> rfl

@[simp] theorem take_cons_succ : (Forest.cons k t r).take (i + 1) = .cons k t (r.take i) := rfl

@[simp] theorem mapAt_cons_zero : (Forest.cons k t r).mapAt g 0 = .cons k (g t) r := rfl

@[simp] theorem mapAt_cons_succ : (Forest.cons k t r).mapAt g (i + 1) = .cons k t (r.mapAt g i) := rfl

end

theorem eq_of_get? {β : Type} {F : Forest K E → Nat → β} {φ : Tree K E → β} {d : β}
    (hnil : ∀ i, F .nil i = d) (h0 : ∀ k t r, F (.cons k t r) 0 = φ t)
    (hs : ∀ k t r i, F (.cons k t r) (i + 1) = F r i) :
    ∀ f i, F f i = match f.get? i with | some (_, t) => φ t | none => d
  | .nil, i => hnil i
  | .cons k t r, 0 => h0 k t r
  | .cons k t r, i + 1 => (hs k t r i).trans (eq_of_get? hnil h0 hs r i)

theorem drop_of_length_le : ∀ (f : Forest K E) (i : Nat), f.length ≤ i → f.drop i = .nil
  | .nil, _, _ => rfl
  | .cons _ _ _, 0, h => absurd h (Nat.not_succ_le_zero _)
  | .cons _ _ r, i + 1, h => drop_of_length_le r i (Nat.le_of_succ_le_succ h)

theorem get?_of_lt : ∀ (f : Forest K E) (i : Nat), i < f.length → ∃ k t, f.get? i = some (k, t)
  | .nil, _, h => absurd h (Nat.not_lt_zero _)
  | .cons k t _, 0, _ => ⟨k, t, rfl⟩
  | .cons _ _ r, i + 1, h => get?_of_lt r i (Nat.lt_of_succ_lt_succ h)

theorem get?_ind {motive : Forest K E → Nat → K → Tree K E → Prop}
    (zero : ∀ k t r, motive (.cons k t r) 0 k t)
    (succ : ∀ k' t' r i k t, motive r i k t → motive (.cons k' t' r) (i + 1) k t) :
    ∀ f i k t, f.get? i = some (k, t) → motive f i k t
  | .nil, _, _, _, h => nomatch h
  | .cons k' t' r, 0, _, _, h => by cases h; exact zero k' t' r
  | .cons k' t' r, i + 1, k, t, h => succ k' t' r i k t (get?_ind zero succ r i k t h)

theorem lt_of_get? (f : Forest K E) (i : Nat) (k : K) (t : Tree K E) (h : f.get? i = some (k, t)) :
    i < f.length :=
  get?_ind (motive := fun f i _ _ => i < f.length) (fun _ _ _ => Nat.succ_pos _)
    (fun _ _ _ _ _ _ ih => Nat.succ_lt_succ ih) f i k t h

theorem drop_of_get? : ∀ (f : Forest K E) (i : Nat) (k : K) (t : Tree K E), f.get? i = some (k, t) →
    f.drop i = .cons k t (f.drop (i + 1)) :=
  get?_ind (fun _ _ r => by rw [drop, drop, drop_zero]) (fun _ _ _ _ _ _ ih => ih)

theorem flattenF_of_get? : ∀ (f : Forest K E) (i : Nat) (k : K) (t : Tree K E), f.get? i = some (k, t) →
    Tree.flattenF f = Tree.flattenF (f.take i) ++ (t.flatten ++ Tree.flattenF (f.drop (i + 1))) :=
  get?_ind (fun _ _ r => by rw [take, drop, drop_zero, Tree.flattenF, Tree.flattenF, List.nil_append])
    (fun _ _ _ _ _ _ ih => by rw [take, drop, Tree.flattenF, Tree.flattenF, List.append_assoc, ← ih])

theorem nodesF_of_get? : ∀ (f : Forest K E) (i : Nat) (k : K) (t : Tree K E), f.get? i = some (k, t) →
    t.nodes + Tree.nodesF (f.drop (i + 1)) ≤ Tree.nodesF f :=
  get?_ind (fun _ _ r => by rw [drop, drop_zero, Tree.nodesF]; exact Nat.le_refl _)
    (fun _ t' _ _ _ _ ih => by rw [drop, Tree.nodesF]; exact Nat.le_trans ih (Nat.le_add_left _ _))

theorem nodes_get?_le (f : Forest K E) (i : Nat) (k : K) (t : Tree K E) (h : f.get? i = some (k, t)) :
    t.nodes ≤ Tree.nodesF f :=
  Nat.le_trans (Nat.le_add_right _ _) (nodesF_of_get? f i k t h)

theorem eq_mapAt {F : Forest K E → Nat → Forest K E} {g : Tree K E → Tree K E}
    (hnil : ∀ i, F .nil i = .nil) (h0 : ∀ k t r, F (.cons k t r) 0 = .cons k (g t) r)
    (hs : ∀ k t r i, F (.cons k t r) (i + 1) = .cons k t (F r i)) : ∀ f i, F f i = f.mapAt g i
  | .nil, i => hnil i
  | .cons k t r, 0 => h0 k t r
  | .cons k t r, i + 1 => (hs k t r i).trans (congrArg (Forest.cons k t) (eq_mapAt hnil h0 hs r i))

theorem mapAt_cons (g : Tree K E → Tree K E) (k : K) (t : Tree K E) (r : Forest K E) (i : Nat) :
    ∃ t₁ r₁, (Forest.cons k t r).mapAt g i = .cons k t₁ r₁ := by
  cases i <;> exact ⟨_, _, rfl⟩

theorem flattenF_mapAt (g : Tree K E → Tree K E) : ∀ (f : Forest K E) (i : Nat) (k : K) (t : Tree K E),
    f.get? i = some (k, t) → Tree.flattenF (f.mapAt g i) =
      Tree.flattenF (f.take i) ++ ((g t).flatten ++ Tree.flattenF (f.drop (i + 1))) :=
  get?_ind (fun _ _ r => by rw [mapAt, take, drop, drop_zero, Tree.flattenF, Tree.flattenF, List.nil_append])
    (fun _ _ _ _ _ _ ih => by rw [mapAt, take, drop, Tree.flattenF, Tree.flattenF, ih, List.append_assoc])

@[simp] theorem toList_nil : (Forest.nil : Forest K E).toList = [] := rfl

@[simp] theorem toList_cons (k : K) (t : Tree K E) (r : Forest K E) :
    (Forest.cons k t r).toList = (k, t) :: r.toList := rfl

theorem mem_toList_of_get? : ∀ (f : Forest K E) (i : Nat) (k : K) (t : Tree K E),
    f.get? i = some (k, t) → (k, t) ∈ f.toList :=
  get?_ind (fun _ _ _ => List.mem_cons_self) (fun _ _ _ _ _ _ ih => List.mem_cons_of_mem _ ih)

theorem toList_append : ∀ f g : Forest K E, (f.append g).toList = f.toList ++ g.toList
  | .nil, _ => rfl
  | .cons k t r, g => by simp [Forest.append, toList_append r g]

theorem toList_ofList : ∀ l : List (K × Tree K E), (Forest.ofList l).toList = l
  | [] => rfl
  | (k, t) :: r => by simp [Forest.ofList, toList_ofList r]

theorem ofList_append : ∀ a b : List (K × Tree K E),
    Forest.ofList (a ++ b) = (Forest.ofList a).append (Forest.ofList b)
  | [], _ => rfl
  | (k, t) :: a, b => by simp [Forest.ofList, Forest.append, ofList_append a b]

theorem append_nil : ∀ f : Forest K E, f.append .nil = f
  | .nil => rfl
  | .cons k t rest => by
    show Forest.cons k t (rest.append .nil) = _
    rw [append_nil rest]

theorem length_eq : ∀ f : Forest K E, f.length = f.toList.length
  | .nil => rfl
  | .cons _ _ r => by simp [Forest.length, length_eq r]

inductive Rel₂ (R : Tree K E → Tree K E → Prop) : Forest K E → Forest K E → Prop where
  | nil : Rel₂ R .nil .nil
  | cons (k : K) {t t' : Tree K E} {r r' : Forest K E} :
      R t t' → Rel₂ R r r' → Rel₂ R (.cons k t r) (.cons k t' r')

namespace Rel₂
variable {R : Tree K E → Tree K E → Prop}

theorem refl (hr : ∀ t, R t t) : ∀ f : Forest K E, Rel₂ R f f
  | .nil => .nil
  | .cons k t r => .cons k (hr t) (refl hr r)

theorem imp {R' : Tree K E → Tree K E → Prop} (h : ∀ a b, R a b → R' a b) {f f' : Forest K E}
    (hr : Rel₂ R f f') : Rel₂ R' f f' := by
  induction hr with
  | nil => exact .nil
  | cons k ht _ ih => exact .cons k (h _ _ ht) ih

/-- `R e.2 (g e.2)` is asked of every entry, not of child `i` alone: the callers have it of all children, and the
other children need `R t t` -/
theorem mapAt (g : Tree K E → Tree K E) (hr : ∀ t, R t t) : ∀ (f : Forest K E) (i : Nat),
    (∀ e ∈ f.toList, R e.2 (g e.2)) → Rel₂ R f (f.mapAt g i)
  | .nil, _, _ => .nil
  | .cons k t r, 0, h => .cons k (h (k, t) List.mem_cons_self) (refl hr r)
  | .cons k t r, i + 1, h => .cons k (hr t) (mapAt g hr r i fun e he => h e (List.mem_cons_of_mem _ he))

theorem length_eq {f f' : Forest K E} (h : Rel₂ R f f') : f'.length = f.length := by
  induction h with
  | nil => rfl
  | cons _ _ _ ih => simp only [Forest.length, ih]

theorem allK {P Q : K → Tree K E → Prop} (hR : ∀ k a b, R a b → P k a → Q k b) {f f' : Forest K E} (h : Rel₂ R f f')
    (hf : ∀ e ∈ f.toList, P e.1 e.2) : ∀ e ∈ f'.toList, Q e.1 e.2 := by
  induction h with
  | nil => exact fun _ he => nomatch he
  | cons k ht _ ih =>
    simp only [toList_cons, List.forall_mem_cons] at hf ⊢
    exact ⟨hR k _ _ ht hf.1, ih hf.2⟩

theorem all {P Q : Tree K E → Prop} (hR : ∀ a b, R a b → P a → Q b) {f f' : Forest K E} (h : Rel₂ R f f')
    (hf : ∀ e ∈ f.toList, P e.2) : ∀ e ∈ f'.toList, Q e.2 :=
  h.allK (P := fun _ => P) (Q := fun _ => Q) (fun _ => hR) hf

end Rel₂

end Forest

theorem Tree.ind_toList {P : Tree K E → Prop} (leaf : ∀ p es, P (.leaf p es))
    (branch : ∀ p kids, (∀ e ∈ kids.toList, P e.2) → P (.branch p kids)) : ∀ t, P t :=
  @Tree.rec K E (fun t => P t) (fun f => ∀ e ∈ f.toList, P e.2) leaf branch
    (fun _ h => nomatch h)
    (fun k t r ht hr e he => by
      rcases List.mem_cons.1 he with rfl | he
      · exact ht
      · exact hr e he)

def Tree.kids : Tree K E → Forest K E
  | .leaf _ _ => .nil
  | .branch _ kids => kids

theorem Tree.ind_kids {P : Tree K E → Prop} (h : ∀ t, (∀ e ∈ t.kids.toList, P e.2) → P t) : ∀ t, P t :=
  Tree.ind_toList (fun _ _ => h _ fun _ he => nomatch he) (fun _ _ ih => h _ ih)

theorem Forest.eq_flatMap {β : Type} {φ : K × Tree K E → List β} {Φ : Forest K E → List β}
    (hnil : Φ .nil = []) (hcons : ∀ k t r, Φ (.cons k t r) = φ (k, t) ++ Φ r) :
    ∀ f : Forest K E, Φ f = f.toList.flatMap φ
  | .nil => hnil
  | .cons k t r => by rw [hcons, Forest.eq_flatMap hnil hcons r, Forest.toList_cons, List.flatMap_cons]

theorem Forest.forall_iff {P : K × Tree K E → Prop} {Φ : Forest K E → Prop} (hnil : Φ .nil)
    (hcons : ∀ k t r, Φ (.cons k t r) ↔ P (k, t) ∧ Φ r) : ∀ f : Forest K E, Φ f ↔ ∀ e ∈ f.toList, P e
  | .nil => ⟨fun _ _ h => (nomatch h), fun _ => hnil⟩
  | .cons k t r => by rw [hcons, Forest.forall_iff hnil hcons r, Forest.toList_cons, List.forall_mem_cons]

theorem Forest.mem_flatMap_of {β : Type} {φ : K × Tree K E → List β} {Φ : Forest K E → List β}
    (hnil : Φ .nil = []) (hcons : ∀ k t r, Φ (.cons k t r) = φ (k, t) ++ Φ r) {x : β} {f : Forest K E} :
    x ∈ Φ f ↔ ∃ e ∈ f.toList, x ∈ φ e := by
  rw [Forest.eq_flatMap hnil hcons, List.mem_flatMap]

@[simp] theorem flattenF_cons (k : K) (t : Tree K E) (rest : Forest K E) :
    Tree.flattenF (.cons k t rest) = t.flatten ++ Tree.flattenF rest := by
  simp only [Tree.flattenF]

@[simp] theorem flattenF_nil : Tree.flattenF (Forest.nil : Forest K E) = [] := by
  simp only [Tree.flattenF]

@[simp] theorem flatten_leaf (p : Nat) (es : List (K × E)) : (Tree.leaf p es).flatten = es := by
  simp only [Tree.flatten]

@[simp] theorem flatten_branch (p : Nat) (kids : Forest K E) :
    (Tree.branch p kids).flatten = Tree.flattenF kids := by
  simp only [Tree.flatten]

theorem flattenF_eq (f : Forest K E) : Tree.flattenF f = f.toList.flatMap (·.2.flatten) :=
  Forest.eq_flatMap rfl (fun _ _ _ => rfl) f

theorem flattenF_append (f g : Forest K E) :
    Tree.flattenF (Forest.append f g) = Tree.flattenF f ++ Tree.flattenF g := by
  simp [flattenF_eq, Forest.toList_append]

theorem flattenF_ofList (c : List (K × Tree K E)) :
    Tree.flattenF (Forest.ofList c) = c.flatMap (·.2.flatten) := by
  rw [flattenF_eq, Forest.toList_ofList]

theorem flattenF_rel₂ {P : Tree K E → Prop} {f f' : Forest K E}
    (hr : Forest.Rel₂ (fun a b => P a → b.flatten = a.flatten) f f') (h : ∀ e ∈ f.toList, P e.2) :
    Tree.flattenF f' = Tree.flattenF f := by
  induction hr with
  | nil => rfl
  | cons _ ht _ ih =>
    simp only [Forest.toList_cons, List.forall_mem_cons] at h
    simp only [Tree.flattenF, ht h.1, ih h.2]

theorem flattenF_mapAt_eq_self (g : Tree K E → Tree K E) (f : Forest K E) (i : Nat)
    (h : ∀ e ∈ f.toList, (g e.2).flatten = e.2.flatten) : Tree.flattenF (f.mapAt g i) = Tree.flattenF f :=
  flattenF_rel₂ (P := fun _ => True) (Forest.Rel₂.mapAt g (fun _ _ => rfl) f i fun e he _ => h e he) fun _ _ => trivial

section
variable [Ord K]

theorem lookupAt_eq (key : K) (kids : Forest K E) (i : Nat) :
    Forest.lookupAt key kids i = match kids.get? i with
      | some (_, t) => t.lookup key
      | none => none :=
  Forest.eq_of_get? (fun _ => rfl) (fun _ _ _ => rfl) (fun _ _ _ _ => rfl) kids i

variable [DecidableEq K]

theorem putAt_eq (key : K) (e : E) (f : Forest K E) (i : Nat) :
    Forest.putAt key e f i = f.mapAt (Tree.put key e) i :=
  Forest.eq_mapAt (fun _ => rfl) (fun _ _ _ => rfl) (fun _ _ _ _ => rfl) f i

theorem delAt_eq (key : K) (f : Forest K E) (i : Nat) : Forest.delAt key f i = f.mapAt (Tree.del key) i :=
  Forest.eq_mapAt (fun _ => rfl) (fun _ _ _ => rfl) (fun _ _ _ _ => rfl) f i

theorem put_branch_mapAt (key : K) (e : E) (p : Nat) (kids : Forest K E) :
    (Tree.branch p kids).put key e = .branch p (kids.mapAt (Tree.put key e) (indexOf kids.keys key).1) := by
  rw [Tree.put, putAt_eq]

theorem del_branch_mapAt (key : K) (p : Nat) (kids : Forest K E) :
    (Tree.branch p kids).del key = .branch p (kids.mapAt (Tree.del key) (indexOf kids.keys key).1) := by
  rw [Tree.del, delAt_eq]

end

end Jamm
