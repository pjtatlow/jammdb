/-
One write transaction on its private list: what `FL.release` moves (on key-ascending `pending` the `takeWhile` /
`dropWhile` are filters, `keys_below_mono`), the frees, and the allocation loop.  The frees of `freePage` are followed
twice: as a permutation of the page lists, for `Nodup`, and with the key kept, `∃ e ∈ pending, P e.1 ∧ q ∈ e.2`, for
`pendingAbove` (`P := (t < ·)`).  The loop `TxFL.run` is a fold of `allocStep` with invariant `AInv` (`TxFL.run_ind`):
what is allocated comes out of the free list or from beyond the page mark, as one permutation.
-/
import Jamm.Proofs.FreelistBasic

namespace Jamm

abbrev Pend := List (Nat × List Nat)

theorem mem_pendingPages (f : FL) (q : Nat) : q ∈ f.pendingPages ↔ ∃ e ∈ f.pending, q ∈ e.2 :=
  List.mem_flatMap

theorem mem_pendingAbove (f : FL) (t q : Nat) :
    q ∈ f.pendingAbove t ↔ ∃ e ∈ f.pending, t < e.1 ∧ q ∈ e.2 := by
  simp only [FL.pendingAbove, List.mem_flatMap, List.mem_filter, decide_eq_true_eq, and_assoc]

theorem pendingAbove_subset {f : FL} {t q : Nat} (h : q ∈ f.pendingAbove t) : q ∈ f.pendingPages :=
  have ⟨e, he, _, hq⟩ := (mem_pendingAbove f t q).1 h
  (mem_pendingPages f q).2 ⟨e, he, hq⟩

theorem mem_release_free_takeWhile (f : FL) (bound p : Nat) :
    p ∈ (f.release bound).free ↔
      p ∈ f.free ∨ p ∈ (f.pending.takeWhile (fun e => e.1 < bound)).flatMap (·.2) :=
  mem_foldl_insertSorted _ _ _

/-- on a key-ascending pending map the keys below a bound come first, so `takeWhile` / `dropWhile` are filters -/
theorem keys_below_mono (bound : Nat) {l : Pend} (h : (l.map (·.1)).Pairwise (· < ·)) :
    l.Pairwise (fun a b => decide (b.1 < bound) = true → decide (a.1 < bound) = true) :=
  (List.pairwise_map.1 h).imp fun hab hb => decide_eq_true (Nat.lt_trans hab (of_decide_eq_true hb))

theorem mem_release_free (f : FL) (bound : Nat) (ha : (f.pending.map (·.1)).Pairwise (· < ·)) (p : Nat) :
    p ∈ (f.release bound).free ↔ (p ∈ f.free ∨ ∃ e ∈ f.pending, e.1 < bound ∧ p ∈ e.2) := by
  rw [mem_release_free_takeWhile, takeWhile_eq_filter (keys_below_mono bound ha)]
  simp only [List.mem_flatMap, List.mem_filter, decide_eq_true_eq, and_assoc]

theorem mem_release_pending (f : FL) (bound : Nat) (ha : (f.pending.map (·.1)).Pairwise (· < ·))
    (e : Nat × List Nat) :
    e ∈ (f.release bound).pending ↔ (e ∈ f.pending ∧ bound ≤ e.1) := by
  show e ∈ f.pending.dropWhile (fun e => e.1 < bound) ↔ _
  rw [dropWhile_eq_filter (keys_below_mono bound ha), List.mem_filter, Bool.not_eq_true', decide_eq_false_iff_not,
    Nat.not_lt]

theorem release_pending_eq_nil (f : FL) (bound : Nat) (ha : (f.pending.map (·.1)).Pairwise (· < ·))
    (h : ∀ e ∈ f.pending, e.1 < bound) : (f.release bound).pending = [] :=
  List.eq_nil_iff_forall_not_mem.2 fun e he =>
    have ⟨h1, h2⟩ := (mem_release_pending f bound ha e).1 he
    Nat.not_le_of_lt (h e h1) h2

theorem release_free_pairwise (f : FL) (bound : Nat) (h : f.free.Pairwise (· < ·)) :
    (f.release bound).free.Pairwise (· < ·) :=
  pairwise_foldl_insertSorted _ _ h

theorem release_keys_pairwise (f : FL) (bound : Nat) (ha : (f.pending.map (·.1)).Pairwise (· < ·)) :
    ((f.release bound).pending.map (·.1)).Pairwise (· < ·) :=
  List.Pairwise.sublist (List.Sublist.map _ (List.dropWhile_sublist _)) ha

theorem release_split (f : FL) (bound : Nat) :
    f.pendingPages = (f.pending.takeWhile (fun e => e.1 < bound)).flatMap (·.2) ++ (f.release bound).pendingPages := by
  unfold FL.release FL.pendingPages
  rw [← List.flatMap_append, List.takeWhile_append_dropWhile]

theorem release_mem_free_or_pending (f : FL) (bound p : Nat) :
    p ∈ (f.release bound).free ∨ p ∈ (f.release bound).pendingPages ↔ p ∈ f.free ∨ p ∈ f.pendingPages := by
  rw [release_split f bound, List.mem_append, ← or_assoc, mem_release_free_takeWhile]

theorem release_pendingPages_subset (f : FL) (bound : Nat) (q : Nat) (h : q ∈ (f.release bound).pendingPages) :
    q ∈ f.pendingPages := by
  rw [release_split f bound]
  exact List.mem_append_right _ h

theorem release_perm (f : FL) (B : Nat) (ha : f.free.Pairwise (· < ·)) (hnd : (f.free ++ f.pendingPages).Nodup) :
    ((f.release B).free ++ (f.release B).pendingPages).Perm (f.free ++ f.pendingPages) := by
  rw [release_split f B, ← List.append_assoc] at hnd ⊢
  exact ((List.perm_ext_iff_of_nodup (pairwise_lt_nodup (release_free_pairwise f B ha)) (List.nodup_append.1 hnd).1).2
    fun p => (mem_release_free_takeWhile f B p).trans List.mem_append.symm).append_right _

theorem freePage_go_exists (tx page : Nat) (P : Nat → Prop) (q : Nat) (l : Pend) :
    (∃ e ∈ FL.freePage.go tx page l, P e.1 ∧ q ∈ e.2) ↔
      ((∃ e ∈ l, P e.1 ∧ q ∈ e.2) ∨ (P tx ∧ q = page)) := by
  have hc : ∀ (a : Nat × List Nat) (l : Pend), (∃ e ∈ a :: l, P e.1 ∧ q ∈ e.2) ↔
      ((P a.1 ∧ q ∈ a.2) ∨ ∃ e ∈ l, P e.1 ∧ q ∈ e.2) :=
    fun a l => by simp only [List.mem_cons, exists_eq_or_imp]
  fun_induction FL.freePage.go tx page l with
  | case1 => simp
  | case2 t ps rest h1 =>
    simp only [hc, List.mem_singleton]
    exact or_comm
  | case3 ps rest h1 =>
    simp only [hc, List.mem_append, List.mem_singleton, and_or_left]
    exact or_right_comm
  | case4 t ps rest h1 h2 ih =>
    simp only [hc, ih]
    exact or_assoc.symm

theorem freePage_keys (f : FL) (tx page : Nat) :
    (f.freePage tx page).pending.map (·.1) = FL.insertSorted tx (f.pending.map (·.1)) := by
  show (FL.freePage.go tx page f.pending).map (·.1) = _
  fun_induction FL.freePage.go tx page f.pending with
  | case1 => rfl
  | case2 t ps rest h1 => simp only [List.map_cons, FL.insertSorted, h1, if_true]
  | case3 ps rest h1 => simp only [List.map_cons, FL.insertSorted, h1, if_true, if_false]
  | case4 t ps rest h1 h2 ih => simp only [List.map_cons, FL.insertSorted, h1, h2, if_false, ih]

theorem freePage_go_perm (tx page : Nat) (l : Pend) :
    ((FL.freePage.go tx page l).flatMap (·.2)).Perm (l.flatMap (·.2) ++ [page]) := by
  fun_induction FL.freePage.go tx page l with
  | case1 => simp
  | case2 t ps rest h1 => exact List.perm_append_comm (l₁ := [page])
  | case3 ps rest h1 =>
    simp only [List.flatMap_cons, List.append_assoc]
    exact List.Perm.append_left _ (List.perm_append_comm (l₁ := [page]))
  | case4 t ps rest h1 h2 ih =>
    simp only [List.flatMap_cons, List.append_assoc]
    exact List.Perm.append_left _ ih

/-- the frees of `TxFL.run` -/
def FL.freeAll (f : FL) (tx : Nat) (ps : List Nat) : FL := ps.foldl (fun acc p => acc.freePage tx p) f

theorem freeAll_free (f : FL) (tx : Nat) (ps : List Nat) : (f.freeAll tx ps).free = f.free :=
  foldl_unchanged (fun acc p => acc.freePage tx p) (·.free) ps (fun _ _ _ => rfl) f

theorem freeAll_exists (tx : Nat) (P : Nat → Prop) (q : Nat) (ps : List Nat) (f : FL) :
    (∃ e ∈ (f.freeAll tx ps).pending, P e.1 ∧ q ∈ e.2) ↔
      ((∃ e ∈ f.pending, P e.1 ∧ q ∈ e.2) ∨ (P tx ∧ q ∈ ps)) := by
  unfold FL.freeAll
  induction ps generalizing f with
  | nil => simp
  | cons a rest ih =>
    rw [List.foldl_cons, ih]
    have := freePage_go_exists tx a P q f.pending
    simp only [FL.freePage, this, List.mem_cons, and_or_left]
    exact or_assoc

theorem freeAll_keys (tx : Nat) (ps : List Nat) (f : FL) :
    ∀ k ∈ (f.freeAll tx ps).pending.map (·.1), k = tx ∨ k ∈ f.pending.map (·.1) :=
  foldl_keeps (P := fun g => ∀ k ∈ g.pending.map (·.1), k = tx ∨ k ∈ f.pending.map (·.1))
    (fun g a h k hk => by
      rw [freePage_keys, mem_insertSorted] at hk
      exact hk.elim Or.inl (h k))
    ps f (fun _ hk => Or.inr hk)

theorem freeAll_keys_pairwise (tx : Nat) (ps : List Nat) (f : FL)
    (h : (f.pending.map (·.1)).Pairwise (· < ·)) :
    ((f.freeAll tx ps).pending.map (·.1)).Pairwise (· < ·) :=
  foldl_keeps (P := fun f => (f.pending.map (·.1)).Pairwise (· < ·))
    (fun f a h => freePage_keys f tx a ▸ pairwise_insertSorted tx _ h) ps f h

theorem freeAll_perm (tx : Nat) (ps : List Nat) (f : FL) :
    (f.freeAll tx ps).pendingPages.Perm (f.pendingPages ++ ps) := by
  unfold FL.freeAll
  induction ps generalizing f with
  | nil => simp
  | cons a rest ih =>
    refine (ih _).trans ?_
    have : (f.freePage tx a).pendingPages.Perm (f.pendingPages ++ [a]) := freePage_go_perm tx a f.pending
    refine (List.Perm.append_right rest this).trans ?_
    simp

theorem FL.allocate_some {f : FL} {n s : Nat} {f' : FL} (h : f.allocate n = some (s, f')) :
    (∀ i, i < n → s + i ∈ f.free) ∧ f' = { f with free := f.free.filter (fun p => p < s ∨ s + n ≤ p) } := by
  unfold FL.allocate at h
  split at h
  · cases h
  · rename_i hs
    cases h
    exact ⟨findRun_sound hs, rfl⟩

theorem TxFL.allocate_cases (t : TxFL) (n : Nat) :
    (FL.findRun n t.fl.free 0 0 = none ∧ t.allocate n = (t.numPages, { t with numPages := t.numPages + n })) ∨
    ∃ s, FL.findRun n t.fl.free 0 0 = some s ∧
      t.allocate n = (s, { t with fl := { t.fl with free := t.fl.free.filter (fun p => p < s ∨ s + n ≤ p) } }) := by
  unfold TxFL.allocate FL.allocate
  cases FL.findRun n t.fl.free 0 0 with
  | none => exact Or.inl ⟨rfl, rfl⟩
  | some s => exact Or.inr ⟨s, rfl, rfl⟩

theorem TxFL.allocate_pending (t : TxFL) (n : Nat) : (t.allocate n).2.fl.pending = t.fl.pending := by
  rcases t.allocate_cases n with ⟨_, e⟩ | ⟨s, _, e⟩ <;> rw [e]

theorem filter_run_perm {free : List Nat} (hnd : free.Nodup) {s n : Nat} (hrun : ∀ i, i < n → s + i ∈ free) :
    (free.filter (fun p => p < s ∨ s + n ≤ p) ++ List.range' s n).Perm free := by
  refine (List.Perm.append_left _ ?_).trans (List.filter_append_perm _ free)
  -- two duplicate-free lists with the same members
  refine (List.perm_ext_iff_of_nodup List.nodup_range' (hnd.sublist List.filter_sublist)).2 fun a => ?_
  simp only [List.mem_range'_1, List.mem_filter, Bool.not_eq_true', decide_eq_false_iff_not]
  refine ⟨fun h => ⟨?_, by omega⟩, fun h => by omega⟩
  have := hrun (a - s) (by omega)
  rwa [Nat.add_sub_cancel' h.1] at this

theorem expand_snoc (acc : List (Nat × Nat)) (s n : Nat) :
    expand (acc ++ [(s, n)]) = expand acc ++ (List.range n).map (· + s) := by
  simp [expand]

def allocStep (acc : List (Nat × Nat) × TxFL) (n : Nat) : List (Nat × Nat) × TxFL :=
  let r := acc.2.allocate n
  (acc.1 ++ [(r.1, n)], r.2)

theorem allocStep_snd (st : List (Nat × Nat) × TxFL) (n : Nat) : (allocStep st n).2 = (st.2.allocate n).2 := rfl

theorem TxFL.run_eq (t : TxFL) (w : WriterTx) :
    t.run w = w.requests.foldl allocStep ([], { t with fl := t.fl.freeAll t.txId w.freed }) := rfl

/-- invariant of the allocation loop: `F` the private free set, `N` the page mark at its start -/
structure AInv (F : List Nat) (N : Nat) (st : List (Nat × Nat) × TxFL) : Prop where
  sub : st.2.fl.free.Sublist F
  mono : N ≤ st.2.numPages
  perm : (st.2.fl.free ++ expand st.1).Perm (F ++ List.range' N (st.2.numPages - N))

theorem AInv.init (t : TxFL) : AInv t.fl.free t.numPages ([], t) where
  sub := List.Sublist.refl _
  mono := Nat.le_refl _
  perm := by simp [expand]

theorem AInv.mem_expand {F : List Nat} {N : Nat} {st : List (Nat × Nat) × TxFL} (h : AInv F N st) {p : Nat}
    (hp : p ∈ expand st.1) : p ∈ F ∨ N ≤ p :=
  (List.mem_append.1 (h.perm.mem_iff.1 (List.mem_append_right _ hp))).imp_right fun h => (List.mem_range'_1.1 h).1

theorem AInv.step {F : List Nat} {N : Nat} {st : List (Nat × Nat) × TxFL}
    (hF : F.Nodup) (h : AInv F N st) (n : Nat) : AInv F N (allocStep st n) := by
  obtain ⟨acc, t⟩ := st
  have hmono : N ≤ t.numPages := h.mono
  unfold allocStep
  rcases t.allocate_cases n with ⟨_, e⟩ | ⟨s, hs, e⟩ <;> rw [e]
  · refine ⟨h.sub, Nat.le_trans hmono (Nat.le_add_right _ _), ?_⟩
    -- the file grows by the run: `[N, mark + n)` is `[N, mark)` and `[mark, mark + n)`
    have : t.numPages + n - N = (t.numPages - N) + n := by omega
    simp only [expand_snoc, map_range_add]
    rw [this, ← List.range'_append, Nat.one_mul, Nat.add_sub_cancel' hmono, ← List.append_assoc, ← List.append_assoc]
    exact h.perm.append_right _
  · refine ⟨List.filter_sublist.trans h.sub, hmono, ?_⟩
    -- the run comes out of the free list
    simp only [expand_snoc, map_range_add]
    refine ((List.perm_append_comm.append_left _).trans ?_).trans h.perm
    rw [← List.append_assoc]
    exact (filter_run_perm (hF.sublist h.sub) (findRun_sound hs)).append_right _

theorem TxFL.run_ind (t : TxFL) (w : WriterTx) (hF : t.fl.free.Nodup)
    {Q : List (Nat × Nat) × TxFL → Prop} (h0 : Q ([], { t with fl := t.fl.freeAll t.txId w.freed }))
    (hQ : ∀ st, ∀ n ∈ w.requests, AInv t.fl.free t.numPages st → Q st → Q (allocStep st n)) :
    AInv t.fl.free t.numPages (t.run w) ∧ Q (t.run w) := by
  have h := AInv.init { t with fl := t.fl.freeAll t.txId w.freed }
  simp only [freeAll_free] at h
  rw [TxFL.run_eq]
  exact foldl_keeps_mem (P := fun st => AInv t.fl.free t.numPages st ∧ Q st) w.requests
    (fun st n hn h => ⟨h.1.step hF n, hQ st n hn h.1 h.2⟩) _ ⟨h, h0⟩

theorem TxFL.run_pending (t : TxFL) (w : WriterTx) :
    (t.run w).2.fl.pending = (t.fl.freeAll t.txId w.freed).pending := by
  rw [TxFL.run_eq]
  exact foldl_unchanged allocStep (·.2.fl.pending) w.requests
    (fun n _ st => by rw [allocStep_snd]; exact TxFL.allocate_pending st.2 n) _

theorem TxFL.run_pendingPages (t : TxFL) (w : WriterTx) :
    (t.run w).2.fl.pendingPages.Perm (t.fl.pendingPages ++ w.freed) := by
  unfold FL.pendingPages
  rw [t.run_pending w]
  exact freeAll_perm t.txId w.freed t.fl

theorem TxFL.mem_run_pendingAbove (t : TxFL) (w : WriterTx) (r q : Nat) :
    q ∈ (t.run w).2.fl.pendingAbove r ↔ (q ∈ t.fl.pendingAbove r ∨ (r < t.txId ∧ q ∈ w.freed)) := by
  rw [mem_pendingAbove, t.run_pending w, freeAll_exists t.txId (r < ·) q w.freed t.fl, mem_pendingAbove]

end Jamm
