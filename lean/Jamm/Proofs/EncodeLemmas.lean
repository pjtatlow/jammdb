/-
Layer S: the page writer and the page decoder are inverse on nodes that fit their page run, and the
writer touches nothing outside the bytes the node occupies.  The writer is taken as its list of writes
(`writeLeafPage_eq`): the list is pairwise disjoint and inside the node's bytes, and any source that holds it —
the written one, or the real file in the correspondence run — decodes to the node.
-/
import Jamm.Proofs.EncodeHeader

namespace Jamm

section
variable (L : Layout)

def leafKind : ElemKind (Bytes × LeafVal) where
  sz := L.leafSize
  flds e pos kv :=
    [(e + L.leafType, [(kv.2.ty L).toUInt8]), (e + L.leafPos, leBytes pos 8), (e + L.leafKsize, leBytes kv.1.length 8),
     (e + L.leafVsize, leBytes (kv.2.bytes L).length 8)]
  data kv := kv.1 ++ kv.2.bytes L

theorem leafElemWrites_eq (base n : Nat) : ∀ (es : List (Bytes × LeafVal)) (i doff : Nat),
    leafElemWrites L base n es i doff = (leafKind L).writes (base + L.pgPtr) n es i doff := by
  intro es
  induction es with
  | nil => intro _ _; rfl
  | cons kv rest ih =>
    obtain ⟨k, v⟩ := kv
    intro i doff
    simp only [leafElemWrites, ElemKind.writes, leafKind, List.length_append,
      ← Nat.add_assoc, ih]
    rfl

theorem leafBytes_eq (es : List (Bytes × LeafVal)) :
    leafBytes L es = L.pgPtr + es.length * L.leafSize + (leafKind L).dataLen es := by
  simp only [leafBytes, ElemKind.dataLen, leafKind, List.length_append]

def branchKind : ElemKind (Bytes × Nat) where
  sz := L.branchSize
  flds e pos kp :=
    [(e + L.branchPage, leBytes kp.2 8), (e + L.branchKsize, leBytes kp.1.length 8), (e + L.branchPos, leBytes pos 8)]
  data := Prod.fst

theorem branchElemWrites_eq (base n : Nat) : ∀ (es : List (Bytes × Nat)) (i doff : Nat),
    branchElemWrites L base n es i doff = (branchKind L).writes (base + L.pgPtr) n es i doff := by
  intro es
  induction es with
  | nil => intro _ _; rfl
  | cons kp rest ih =>
    obtain ⟨k, p⟩ := kp
    intro i doff
    simp only [branchElemWrites, ElemKind.writes, branchKind, ih]
    rfl

/-- what lies inside a run that ends below `base + 2 ^ 64` is a position or a size of eight bytes -/
theorem fits_of_in_run {base e x y runEnd : Nat} (hlt : runEnd < base + 2 ^ 64) (hb : base ≤ e) (h : e + x + y ≤ runEnd) :
    x < 2 ^ 64 ∧ y < 2 ^ 64 := by omega

/-- the arguments come in the order of `step` of `ElemKind.decode_writes` (with `(branchKind L).sz` unfolded to
`L.branchSize`), so that the lemma can be passed to it partially applied -/
theorem decodeBranchElems_step (s : Src) (base runEnd : Nat) (hlt : runEnd < base + 2 ^ 64) (m i pos : Nat)
    (kp : Bytes × Nat) (rest : List (Bytes × Nat)) (hfit : kp.2 < 2 ^ 64)
    (hrec : base + L.pgPtr + i * L.branchSize + L.branchSize ≤ runEnd)
    (hend : base + L.pgPtr + i * L.branchSize + pos + kp.1.length ≤ runEnd)
    (H : ∀ w ∈ (branchKind L).flds (base + L.pgPtr + i * L.branchSize) pos kp, s.HasAt w.1 w.2)
    (D : s.HasAt (base + L.pgPtr + i * L.branchSize + pos) kp.1)
    (hrest : decodeBranchElems L s base runEnd m (i + 1) = .ok rest) :
    decodeBranchElems L s base runEnd (m + 1) i = .ok (kp :: rest) := by
  simp only [branchKind, List.forall_mem_cons, List.not_mem_nil, false_imp_iff, implies_true, and_true] at H
  obtain ⟨G1, G2, G3⟩ := H
  obtain ⟨hp, hk⟩ := fits_of_in_run hlt (Nat.le_add_right_of_le (Nat.le_add_right _ _)) hend
  rw [decodeBranchElems]
  simp only [G1.le8 hfit, G2.le8 hk, G3.le8 hp, D.bytes, hrest]
  rw [if_neg (Nat.not_lt.2 hrec), if_neg (Nat.not_lt.2 hend)]

end

section
variable {L : Layout} (W : L.WF)
include W

theorem elemPageWrites_spec {α : Type} {K : ElemKind α} (hK : K.FldsAsc) {base id ty overflow : Nat} (es : List α) :
    (headerWrites L base id ty es.length overflow ++ K.writes (base + L.pgPtr) es.length es 0 0).Pairwise WDisj ∧
    ∀ w ∈ headerWrites L base id ty es.length overflow ++ K.writes (base + L.pgPtr) es.length es 0 0,
      base ≤ w.1 ∧ w.1 + w.2.length ≤ base + (L.pgPtr + es.length * K.sz + K.dataLen es) := by
  obtain ⟨hp, hz⟩ := K.writes_spec hK (base + L.pgPtr) es.length es 0 0 (Nat.zero_add _)
  simp only [Nat.zero_mul, Nat.add_zero] at hz
  refine pageWrites_spec L W.pg1 W.pg2 W.pg3 W.pg4 hp (fun w hw => ?_) (by omega)
  have := hz w hw; omega

theorem leafKind_fldsAsc : (leafKind L).FldsAsc := by
  intro e pos kv
  simp only [leafKind, Asc, leBytes_length, List.length_cons, List.length_nil]
  exact ⟨Nat.le_add_right _ _, asc_link e W.lf1, asc_link e W.lf2, asc_link e W.lf3, asc_link e W.lf4⟩

/-- the fields lie in the record by the chain that keeps their writes apart (of any entry: `default`) -/
theorem leafRec_agree {s s' : Src} {e hi : Nat} (h : Src.AgreeOn s s' e hi) (hrec : e + L.leafSize ≤ hi) :
    (s'.get (e + L.leafType)).toNat = (s.get (e + L.leafType)).toNat ∧ s'.le (e + L.leafPos) 8 = s.le (e + L.leafPos) 8 ∧
    s'.le (e + L.leafKsize) 8 = s.le (e + L.leafKsize) 8 ∧ s'.le (e + L.leafVsize) 8 = s.le (e + L.leafVsize) 8 := by
  have F := (leafKind_fldsAsc W e 0 default).le_agree (h.mono (Nat.le_refl _) hrec)
  simpa only [leafKind, List.forall_mem_cons, List.not_mem_nil, false_imp_iff, implies_true, and_true,
    leBytes_length, List.length_singleton, Src.le_one] using F

theorem leafPageWrites_spec (pagesize pid overflow : Nat) (es : List (Bytes × LeafVal)) :
    (leafPageWrites L pagesize pid overflow es).Pairwise WDisj ∧
    ∀ w ∈ leafPageWrites L pagesize pid overflow es,
      pid * pagesize ≤ w.1 ∧ w.1 + w.2.length ≤ pid * pagesize + leafBytes L es := by
  rw [leafPageWrites, leafElemWrites_eq, leafBytes_eq]
  exact elemPageWrites_spec W (leafKind_fldsAsc W) es

theorem writeLeafPage_frame (pagesize pid overflow : Nat) (es : List (Bytes × LeafVal)) (s : Src) (i : Nat)
    (h : i < pid * pagesize ∨ pid * pagesize + leafBytes L es ≤ i) :
    (writeLeafPage L pagesize pid overflow es s).get i = s.get i := by
  rw [writeLeafPage_eq]
  exact applyWrites_frame (leafPageWrites_spec W pagesize pid overflow es).2 s i h

theorem branchKind_fldsAsc : (branchKind L).FldsAsc := by
  intro e pos kp
  simp only [branchKind, Asc, leBytes_length]
  exact ⟨Nat.le_add_right _ _, asc_link e W.br1, asc_link e W.br2, asc_link e W.br3⟩

theorem branchRec_agree {s s' : Src} {e hi : Nat} (h : Src.AgreeOn s s' e hi) (hrec : e + L.branchSize ≤ hi) :
    s'.le (e + L.branchPage) 8 = s.le (e + L.branchPage) 8 ∧ s'.le (e + L.branchKsize) 8 = s.le (e + L.branchKsize) 8 ∧
    s'.le (e + L.branchPos) 8 = s.le (e + L.branchPos) 8 := by
  have F := (branchKind_fldsAsc W e 0 default).le_agree (h.mono (Nat.le_refl _) hrec)
  simpa only [branchKind, List.forall_mem_cons, List.not_mem_nil, false_imp_iff, implies_true, and_true,
    leBytes_length] using F

theorem branchPageWrites_spec (pagesize pid overflow : Nat) (es : List (Bytes × Nat)) :
    (branchPageWrites L pagesize pid overflow es).Pairwise WDisj ∧
    ∀ w ∈ branchPageWrites L pagesize pid overflow es,
      pid * pagesize ≤ w.1 ∧ w.1 + w.2.length ≤ pid * pagesize + branchBytes L es := by
  rw [branchPageWrites, branchElemWrites_eq]
  exact elemPageWrites_spec W (branchKind_fldsAsc W) es

theorem writeBranchPage_frame (pagesize pid overflow : Nat) (es : List (Bytes × Nat)) (s : Src) (i : Nat)
    (h : i < pid * pagesize ∨ pid * pagesize + branchBytes L es ≤ i) :
    (writeBranchPage L pagesize pid overflow es s).get i = s.get i := by
  rw [writeBranchPage_eq]
  exact applyWrites_frame (branchPageWrites_spec W pagesize pid overflow es).2 s i h

theorem LeafVal.ty_lt (v : LeafVal) : v.ty L < 256 := by
  cases v
  · exact W.ed
  · exact W.eb

/-- as `decodeBranchElems_step`: argument order of `step` of `ElemKind.decode_writes` -/
theorem decodeLeafElems_step (s : Src) (base runEnd : Nat) (hlt : runEnd < base + 2 ^ 64) (m i pos : Nat)
    (kv : Bytes × LeafVal) (rest : List (Bytes × LeafVal)) (hfit : kv.2.fits = true)
    (hrec : base + L.pgPtr + i * L.leafSize + L.leafSize ≤ runEnd)
    (hend : base + L.pgPtr + i * L.leafSize + pos + ((leafKind L).data kv).length ≤ runEnd)
    (H : ∀ w ∈ (leafKind L).flds (base + L.pgPtr + i * L.leafSize) pos kv, s.HasAt w.1 w.2)
    (D : s.HasAt (base + L.pgPtr + i * L.leafSize + pos) ((leafKind L).data kv))
    (hrest : decodeLeafElems L s base runEnd m (i + 1) = .ok rest) :
    decodeLeafElems L s base runEnd (m + 1) i = .ok (kv :: rest) := by
  obtain ⟨k, v⟩ := kv
  -- every read of one decoder step is pinned by a write (`G1`–`G4`, `D`); the positions fit 8 bytes because they lie inside
  -- a run shorter than 2^64 (`fits_of_in_run`); then both bounds tests pass and the value is rebuilt by cases on its tag
  simp only [leafKind, List.forall_mem_cons, List.not_mem_nil, false_imp_iff, implies_true, and_true] at H
  obtain ⟨G1, G2, G3, G4⟩ := H
  simp only [leafKind, List.length_append, ← Nat.add_assoc] at hend D
  have hb : base ≤ base + L.pgPtr + i * L.leafSize := Nat.le_add_right_of_le (Nat.le_add_right _ _)
  obtain ⟨hp, hk⟩ := fits_of_in_run hlt hb (Nat.le_of_add_right_le hend)
  obtain ⟨-, hs⟩ := fits_of_in_run hlt (Nat.le_add_right_of_le hb) hend
  have hty := G1.byte (LeafVal.ty_lt W v)
  have hv := D.append_right
  rw [decodeLeafElems]
  simp only [hty, G2.le8 hp, G3.le8 hk, G4.le8 hs, D.append_left.bytes, hrest]
  rw [if_neg (Nat.not_lt.2 hrec), if_neg (Nat.not_lt.2 hend)]
  cases v with
  | kv d =>
    simp only [LeafVal.ty, ↓reduceIte]
    exact congrArg (fun d => Except.ok ((k, LeafVal.kv d) :: rest)) hv.bytes
  | bkt r ni =>
    have hfit : r < 2 ^ 64 ∧ ni < 2 ^ 64 := of_decide_eq_true hfit
    obtain ⟨hr, hn⟩ := hv.bkt W.bm1 W.bm2
    simp only [LeafVal.ty, LeafVal.bytes_bkt_length]
    rw [if_neg W.edb.symm]
    simp only [↓reduceIte, hr.le8 hfit.1, hn.le8 hfit.2]

section
variable {pagesize : Nat} (hhdr : L.pageSize ≤ pagesize)
include hhdr

theorem elemPage_reads {α : Type} {K : ElemKind α} (hK : 0 < K.sz) {s : Src} {base id ty overflow : Nat} {es : List α}
    (H : ∀ w ∈ headerWrites L base id ty es.length overflow, s.HasAt w.1 w.2)
    (hfit : L.pgPtr + es.length * K.sz + K.dataLen es ≤ (overflow + 1) * pagesize)
    (hid : id < 2 ^ 64) (hty : ty < 256) (hrun : (overflow + 1) * pagesize < 2 ^ 64) :
    HeaderReads L s base id ty es.length overflow ∧
    base + L.pgPtr + es.length * K.sz + 0 + K.dataLen es ≤ base + (overflow + 1) * pagesize ∧
    base + (overflow + 1) * pagesize < base + 2 ^ 64 := by
  -- count and overflow fit 8 bytes because the run does: each is at most its product with `K.sz` resp. `pagesize`, both
  -- positive (`pagesize` holds a page header: `hhdr`, `pg4`, `pg5`); `+ 0 +` is `doff = 0` of `ElemKind.decode_writes`
  have pg4 := W.pg4; have pg5 := W.pg5
  have hov : overflow + 1 ≤ (overflow + 1) * pagesize := Nat.le_mul_of_pos_right _ (by omega)
  have hcnt : es.length ≤ es.length * K.sz := Nat.le_mul_of_pos_right _ hK
  exact ⟨header_of_hasAt L H hid hty (by omega) (by omega), by omega, by omega⟩

theorem decodePage_leaf (s : Src) (pid overflow count : Nat) (es : List (Bytes × LeafVal))
    (hsz : pid * pagesize + (overflow + 1) * pagesize ≤ s.size)
    (R : HeaderReads L s (pid * pagesize) pid L.typeLeaf count overflow)
    (hes : decodeLeafElems L s (pid * pagesize) (pid * pagesize + (overflow + 1) * pagesize) count 0 = .ok es) :
    decodePage L s pagesize pid = .ok { id := pid, overflow := overflow, count := count, body := .leaf es } := by
  have h1 := page_le_run overflow pagesize
  simp only [decodePage, R.ty, R.id, R.count, R.overflow, hes]
  rw [if_neg (by omega), if_neg W.tlm, if_neg (by omega), if_neg W.tlb, if_pos trivial]

theorem decodePage_of_leafPageWrites (pid overflow : Nat) (es : List (Bytes × LeafVal)) (s : Src)
    (H : ∀ w ∈ leafPageWrites L pagesize pid overflow es, s.HasAt w.1 w.2)
    (hfile : pid * pagesize + (overflow + 1) * pagesize ≤ s.size)
    (hfit : leafBytes L es ≤ (overflow + 1) * pagesize)
    (hid : pid < 2 ^ 64) (hrun : (overflow + 1) * pagesize < 2 ^ 64)
    (hv : ∀ e ∈ es, e.2.fits = true) :
    decodePage L s pagesize pid = .ok { id := pid, overflow := overflow, count := es.length, body := .leaf es } := by
  rw [leafBytes_eq] at hfit
  simp only [leafPageWrites, List.forall_mem_append] at H
  obtain ⟨R, hend, hlt⟩ := elemPage_reads W hhdr (K := leafKind L) (Nat.lt_of_lt_of_le (Nat.succ_pos _) W.lf4)
    H.1 hfit hid W.tl hrun
  exact decodePage_leaf W hhdr s pid overflow es.length es hfile R
    ((leafKind L).decode_writes (decodeLeafElems L s (pid * pagesize) _) s _ es.length _ (fun _ => rfl)
      (decodeLeafElems_step W s _ _ hlt) es 0 0 (Nat.zero_add _) hend hv (leafElemWrites_eq L .. ▸ H.2))

theorem decode_writeLeafPage (pid overflow : Nat) (es : List (Bytes × LeafVal)) (s : Src)
    (hfile : pid * pagesize + (overflow + 1) * pagesize ≤ s.size)
    (hfit : leafBytes L es ≤ (overflow + 1) * pagesize)
    (hid : pid < 2 ^ 64) (hrun : (overflow + 1) * pagesize < 2 ^ 64)
    (hv : ∀ e ∈ es, e.2.fits = true) :
    decodePage L (writeLeafPage L pagesize pid overflow es s) pagesize pid =
      .ok { id := pid, overflow := overflow, count := es.length, body := .leaf es } := by
  rw [writeLeafPage_eq]
  exact decodePage_of_leafPageWrites W hhdr pid overflow es _
    (applyWrites_hasAt _ s (leafPageWrites_spec W pagesize pid overflow es).1)
    (by rw [applyWrites_size]; exact hfile) hfit hid hrun hv

theorem decodePage_branch (s : Src) (pid overflow count : Nat) (es : List (Bytes × Nat))
    (hsz : pid * pagesize + (overflow + 1) * pagesize ≤ s.size)
    (R : HeaderReads L s (pid * pagesize) pid L.typeBranch count overflow)
    (hes : decodeBranchElems L s (pid * pagesize) (pid * pagesize + (overflow + 1) * pagesize) count 0 = .ok es) :
    decodePage L s pagesize pid = .ok { id := pid, overflow := overflow, count := count, body := .branch es } := by
  have h1 := page_le_run overflow pagesize
  simp only [decodePage, R.ty, R.id, R.count, R.overflow, hes]
  rw [if_neg (by omega), if_neg W.tbm, if_neg (by omega), if_pos trivial]

theorem decodePage_of_branchPageWrites (pid overflow : Nat) (es : List (Bytes × Nat)) (s : Src)
    (H : ∀ w ∈ branchPageWrites L pagesize pid overflow es, s.HasAt w.1 w.2)
    (hfile : pid * pagesize + (overflow + 1) * pagesize ≤ s.size)
    (hfit : branchBytes L es ≤ (overflow + 1) * pagesize)
    (hid : pid < 2 ^ 64) (hrun : (overflow + 1) * pagesize < 2 ^ 64)
    (hv : ∀ e ∈ es, e.2 < 2 ^ 64) :
    decodePage L s pagesize pid = .ok { id := pid, overflow := overflow, count := es.length, body := .branch es } := by
  simp only [branchPageWrites, List.forall_mem_append] at H
  obtain ⟨R, hend, hlt⟩ := elemPage_reads W hhdr (K := branchKind L) (Nat.lt_of_lt_of_le (Nat.succ_pos _) W.br3)
    H.1 hfit hid W.tb hrun
  exact decodePage_branch W hhdr s pid overflow es.length es hfile R
    ((branchKind L).decode_writes (decodeBranchElems L s (pid * pagesize) _) s _ es.length _ (fun _ => rfl)
      (decodeBranchElems_step L s _ _ hlt) es 0 0 (Nat.zero_add _) hend hv (branchElemWrites_eq L .. ▸ H.2))

theorem decode_writeBranchPage (pid overflow : Nat) (es : List (Bytes × Nat)) (s : Src)
    (hfile : pid * pagesize + (overflow + 1) * pagesize ≤ s.size)
    (hfit : branchBytes L es ≤ (overflow + 1) * pagesize)
    (hid : pid < 2 ^ 64) (hrun : (overflow + 1) * pagesize < 2 ^ 64)
    (hv : ∀ e ∈ es, e.2 < 2 ^ 64) :
    decodePage L (writeBranchPage L pagesize pid overflow es s) pagesize pid =
      .ok { id := pid, overflow := overflow, count := es.length, body := .branch es } := by
  rw [writeBranchPage_eq]
  exact decodePage_of_branchPageWrites W hhdr pid overflow es _
    (applyWrites_hasAt _ s (branchPageWrites_spec W pagesize pid overflow es).1)
    (by rw [applyWrites_size]; exact hfile) hfit hid hrun hv

end
end

end Jamm
