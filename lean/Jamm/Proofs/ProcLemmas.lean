/-
`ProcSys.step` is read once as a set of transitions (`ProcSys.Trans`); every invariant is then a fact about the
transitions, carried along schedules by `ProcSys.run_induction`.  `stepPinned`, the order of the pinned release, gets no
`Trans`: only `create_race_witness_pinned` at the end evaluates it.
-/
import Jamm.Model.Proc
import Jamm.Proofs.ListLemmas
namespace Jamm

/-- the third conjunct (the recorded holder exists: no stale lock) is not needed for the first two to be inductive; it
makes `Holder` an iff -/
def ProcSys.good (s : ProcSys) : Bool :=
  s.exclusive && s.sawAll && (s.lock.isSome == s.procs.any PPhase.holdsLock)

theorem ProcSys.run_induction {P : ProcSys → Prop}
    (hstep : ∀ s i, P s → s.enabled i = true → P (s.step i)) :
    ∀ (sched : List Nat) (s : ProcSys), P s → P (s.run sched)
  | [], _, h => h
  | i :: rest, s, h => by
    unfold ProcSys.run
    split
    · next he => exact run_induction hstep rest _ (hstep s i h he)
    · exact run_induction hstep rest s h

inductive ProcSys.Trans (s : ProcSys) (i : Nat) : PPhase → ProcSys → Prop
  | create : s.file = .missing → Trans s i .start { s with procs := s.procs.set i .opened, file := .created }
  | openExisting : s.file ≠ .missing → Trans s i .start { s with procs := s.procs.set i .opened }
  | created : Trans s i .creating { s with procs := s.procs.set i .opened }
  | lock : s.lock = none → Trans s i .opened { s with procs := s.procs.set i .locked, lock := some i }
  | enter : s.file = .ready → Trans s i .locked { s with procs := s.procs.set i (.inside s.commits) }
  | fail : s.file = .garbage → Trans s i .locked { s with procs := s.procs.set i .failed, lock := none }
  | init : s.file ≠ .ready → s.file ≠ .garbage →
      Trans s i .locked { s with procs := s.procs.set i .locked, file := .ready }
  | close (n : Nat) : Trans s i (.inside n)
      { s with procs := s.procs.set i .closed, lock := none, commits := s.commits + 1 }

theorem ProcSys.step_trans (s : ProcSys) (i : Nat) (he : s.enabled i = true) :
    ∃ ph, s.procs[i]? = some ph ∧ Trans s i ph (s.step i) := by
  unfold ProcSys.enabled at he
  unfold ProcSys.step
  cases hget : s.procs[i]? with
  | none => simp [hget] at he
  | some ph =>
    refine ⟨ph, rfl, ?_⟩
    rw [hget] at he
    cases ph with
    | start =>
      by_cases h : s.file = .missing
      · simp only [if_pos h]; exact .create h
      · simp only [if_neg h]; exact .openExisting h
    | creating => exact .created
    | opened => exact .lock (by simpa using he)
    | locked =>
      by_cases hr : s.file = .ready
      · simp only [if_pos hr]; exact .enter hr
      · by_cases hg : s.file = .garbage
        · simp only [if_neg hr, if_pos hg]; exact .fail hg
        · simp only [if_neg hr, if_neg hg]; exact .init hr hg
    | inside n => exact .close n
    | closed => simp at he
    | failed => simp at he

theorem ProcSys.Trans.garbage_iff {s s' : ProcSys} {i : Nat} {ph : PPhase} (h : Trans s i ph s') :
    s'.file = .garbage ↔ s.file = .garbage := by
  cases h with
  | create h => simp [h]
  | init _ hg => simp [hg]
  | _ => exact Iff.rfl

theorem ProcSys.Trans.ready_of_ready {s s' : ProcSys} {i : Nat} {ph : PPhase} (h : Trans s i ph s')
    (hr : s.file = .ready) : s'.file = .ready := by
  cases h with
  | create h => rw [h] at hr; cases hr
  | init _ _ => rfl
  | _ => exact hr

theorem ProcSys.Trans.failed_of_mem {s s' : ProcSys} {i : Nat} {ph : PPhase} (h : Trans s i ph s')
    (hm : PPhase.failed ∈ s'.procs) : PPhase.failed ∈ s.procs ∨ s.file = .garbage := by
  cases h with
  | fail h => exact .inr h
  | _ => exact .inl ((List.mem_or_eq_of_mem_set hm).resolve_right nofun)

theorem ProcSys.Trans.inside_of_mem {s s' : ProcSys} {i : Nat} {ph : PPhase} {m : Nat} (h : Trans s i ph s')
    (hm : PPhase.inside m ∈ s'.procs) : PPhase.inside m ∈ s.procs ∨ s'.file = .ready := by
  cases h with
  | enter h => exact .inr h
  | _ => exact .inl ((List.mem_or_eq_of_mem_set hm).resolve_right nofun)

namespace ProcSys

def Holder (procs : List PPhase) (lock : Option Nat) : Prop :=
  ∀ j, lock = some j ↔ ∃ p, procs[j]? = some p ∧ p.holdsLock = true

/-- whoever is inside got in after the last commit -/
def Saw (procs : List PPhase) (commits : Nat) : Prop :=
  ∀ (j n : Nat), procs[j]? = some (.inside n) → n = commits

variable {procs : List PPhase} {lock : Option Nat} {i : Nat} {ph p' : PPhase}

theorem Holder.keep (h : Holder procs lock) (hi : procs[i]? = some ph) (hp : p'.holdsLock = ph.holdsLock) :
    Holder (procs.set i p') lock := by
  intro j
  rw [h j, getElem?_set_of_getElem? p' j hi]
  split
  · next hij => subst hij; simp [hi, hp]
  · rfl

theorem Holder.acquire (h : Holder procs none) (hi : procs[i]? = some ph) (hp : p'.holdsLock = true) :
    Holder (procs.set i p') (some i) := by
  intro j
  rw [getElem?_set_of_getElem? p' j hi]
  split
  · next hij => subst hij; simp [hp]
  · next hij =>
    rw [← h j]
    simp [hij]

theorem Holder.release (h : Holder procs lock) (hi : procs[i]? = some ph) (hph : ph.holdsLock = true)
    (hp : p'.holdsLock = false) : Holder (procs.set i p') none := by
  have hl : lock = some i := (h i).2 ⟨ph, hi, hph⟩
  intro j
  rw [getElem?_set_of_getElem? p' j hi]
  split
  · simp [hp]
  · next hij =>
    rw [← h j, hl]
    simp [hij]

theorem Saw.set {c : Nat} (h : Saw procs c) (hi : procs[i]? = some ph) (hp : ∀ n, p' = .inside n → n = c) :
    Saw (procs.set i p') c := by
  intro j n hj
  rw [getElem?_set_of_getElem? p' j hi] at hj
  split at hj
  · exact hp n (Option.some.inj hj)
  · exact h j n hj

/-- when the holder leaves, nobody is inside: the commit count may change -/
theorem Holder.saw_release {c : Nat} (h : Holder procs lock) (hi : procs[i]? = some ph) (hph : ph.holdsLock = true)
    (hp : ∀ n, p' ≠ .inside n) : Saw (procs.set i p') c := by
  have hl : lock = some i := (h i).2 ⟨ph, hi, hph⟩
  intro j n hj
  rw [getElem?_set_of_getElem? p' j hi] at hj
  split at hj
  · exact absurd (Option.some.inj hj) (hp n)
  · next hij =>
    have := (h j).2 ⟨_, hj, rfl⟩
    rw [hl] at this
    exact absurd (Option.some.inj this) hij

def Inv (s : ProcSys) : Prop := Holder s.procs s.lock ∧ Saw s.procs s.commits

theorem exclusive_iff (s : ProcSys) : s.exclusive = true ↔
    ∀ (j : Nat) (p : PPhase), s.procs[j]? = some p → p.holdsLock = true → s.lock = some j := by
  unfold ProcSys.exclusive
  simp only [Bool.and_eq_true, List.all_eq_true, List.mem_range, decide_eq_true_eq]
  constructor
  · intro h j p hj hp
    have := h.2 j (List.getElem?_eq_some_iff.1 hj).1
    rw [hj] at this
    simpa [hp] using this
  · intro h
    refine ⟨filter_length_le_one _ _ fun j k a b ha hb pa pb => ?_, fun j _ => ?_⟩
    · have := h j a ha pa
      rw [h k b hb pb] at this
      exact (Option.some.inj this).symm
    · split
      · next p hp => cases hpl : p.holdsLock <;> simp [h j p hp, hpl]
      · rfl

theorem sawAll_iff (s : ProcSys) : s.sawAll = true ↔ Saw s.procs s.commits := by
  unfold ProcSys.sawAll Saw
  simp only [List.all_eq_true]
  constructor
  · intro h j n hj
    simpa using h _ (List.mem_of_getElem? hj)
  · intro h p hp
    obtain ⟨j, hj⟩ := List.getElem?_of_mem hp
    split
    · next n => simp [h j n hj]
    · rfl

theorem good_iff (s : ProcSys) : s.good = true ↔ s.Inv := by
  unfold ProcSys.good Inv
  rw [Bool.and_eq_true, Bool.and_eq_true, exclusive_iff, sawAll_iff, beq_iff_eq, Bool.eq_iff_iff, List.any_eq_true,
    Option.isSome_iff_exists]
  constructor
  · rintro ⟨⟨hE, hS⟩, hF⟩
    refine ⟨fun j => ⟨fun hl => ?_, fun ⟨p, hj, hp⟩ => hE j p hj hp⟩, hS⟩
    obtain ⟨p, hm, hp⟩ := hF.1 ⟨j, hl⟩
    obtain ⟨k, hk⟩ := List.getElem?_of_mem hm
    have := hE k p hk hp
    rw [hl] at this; cases this
    exact ⟨p, hk, hp⟩
  · rintro ⟨hH, hS⟩
    refine ⟨⟨fun j p hj hp => (hH j).2 ⟨p, hj, hp⟩, hS⟩, ?_, ?_⟩
    · rintro ⟨j, hl⟩
      obtain ⟨p, hj, hp⟩ := (hH j).1 hl
      exact ⟨p, List.mem_of_getElem? hj, hp⟩
    · rintro ⟨p, hm, hp⟩
      obtain ⟨j, hj⟩ := List.getElem?_of_mem hm
      exact ⟨j, (hH j).2 ⟨p, hj, hp⟩⟩

theorem Inv.step {s : ProcSys} (h : s.Inv) (i : Nat) (he : s.enabled i = true) : (s.step i).Inv := by
  obtain ⟨hH, hS⟩ := h
  obtain ⟨ph, hi, ht⟩ := s.step_trans i he
  generalize s.step i = s' at ht
  -- the lock changes hands in `lock` (taken) and in `fail` / `close` (given back); nothing else touches who holds it
  cases ht with
  | create | openExisting | created | init => exact ⟨hH.keep hi rfl, hS.set hi nofun⟩
  | enter => exact ⟨hH.keep hi rfl, hS.set hi fun n hn => (PPhase.inside.inj hn).symm⟩
  | lock hl => exact ⟨(hl ▸ hH).acquire hi rfl, hS.set hi nofun⟩
  | fail => exact ⟨hH.release hi rfl rfl, hS.set hi nofun⟩
  | close n => exact ⟨hH.release hi rfl rfl, hH.saw_release hi rfl nofun⟩

theorem Inv.run {s : ProcSys} (h : s.Inv) (sched : List Nat) : (s.run sched).Inv :=
  ProcSys.run_induction (fun _ i h he => h.step i he) sched s h

theorem mem_initial {n : Nat} {file : FileSt} {p : PPhase} (h : p ∈ (ProcSys.initial n file).procs) : p = .start :=
  (List.mem_replicate.1 h).2

theorem good_initial (n : Nat) (file : FileSt) : (ProcSys.initial n file).good = true := by
  refine (good_iff _).2 ⟨fun j => ⟨nofun, fun ⟨p, hj, hp⟩ => ?_⟩, fun j m hj => ?_⟩
  · rw [mem_initial (List.mem_of_getElem? hj)] at hp; cases hp
  · cases mem_initial (List.mem_of_getElem? hj)

theorem noFailure_iff (s : ProcSys) : s.noFailure = true ↔ PPhase.failed ∉ s.procs := by
  simp only [ProcSys.noFailure, List.all_eq_true, bne_iff_ne, ne_eq]
  exact ⟨fun h hm => h _ hm rfl, fun h p hp e => h (e ▸ hp)⟩

theorem noFailure_initial (n : Nat) (file : FileSt) : (ProcSys.initial n file).noFailure = true :=
  (noFailure_iff _).2 fun hm => nomatch mem_initial hm

/-- no step produces a `.garbage` file, and the only transition into `.failed` is the `.locked` step that finds one -/
theorem noFailure_run (sched : List Nat) (s : ProcSys) (hf : s.file ≠ .garbage) (hN : s.noFailure = true) :
    (s.run sched).noFailure = true := by
  refine (ProcSys.run_induction (P := fun s => s.file ≠ .garbage ∧ s.noFailure = true) ?_ sched s ⟨hf, hN⟩).2
  intro s i ⟨hg, hN⟩ he
  obtain ⟨ph, _, ht⟩ := s.step_trans i he
  exact ⟨mt ht.garbage_iff.1 hg, (noFailure_iff _).2 fun hm =>
    (ht.failed_of_mem hm).elim ((noFailure_iff s).1 hN) hg⟩

theorem garbage_run (sched : List Nat) (s : ProcSys) (hg : s.file = .garbage) : (s.run sched).file = .garbage :=
  ProcSys.run_induction (P := fun s => s.file = .garbage)
    (fun s i hg he => let ⟨_, _, ht⟩ := s.step_trans i he; ht.garbage_iff.2 hg) sched s hg

/-- a process gets inside only by a `.locked` step that found the file ready, and no step moves the file away from
`.ready` -/
theorem inside_ready_run (sched : List Nat) (s : ProcSys) (h : ∀ m, PPhase.inside m ∈ s.procs → s.file = .ready) :
    ∀ m, PPhase.inside m ∈ (s.run sched).procs → (s.run sched).file = .ready := by
  refine ProcSys.run_induction (P := fun s => ∀ m, PPhase.inside m ∈ s.procs → s.file = .ready) ?_ sched s h
  intro s i h he m hm
  obtain ⟨ph, _, ht⟩ := s.step_trans i he
  exact (ht.inside_of_mem hm).elim (fun hm => ht.ready_of_ready (h m hm)) id

end ProcSys

open ProcSys in
/-- stated for `good`; C13 `mutual_exclusion` projects -/
theorem exclusive_step (s : ProcSys) (i : Nat) (h : s.good = true) (he : s.enabled i = true) :
    (s.step i).good = true :=
  (good_iff _).2 (((good_iff s).1 h).step i he)

theorem ProcSys.good_run {s : ProcSys} (h : s.good = true) (sched : List Nat) : (s.run sched).good = true :=
  (good_iff _).2 (((good_iff s).1 h).run sched)

theorem ProcSys.exclusive_sawAll_of_good {s : ProcSys} (h : s.good = true) :
    s.exclusive = true ∧ s.sawAll = true := by
  simp only [ProcSys.good, Bool.and_eq_true] at h
  exact h.1

/-- D12 (DESIGN §1.1) on the pinned order: when the file does not exist yet, a second process can get the lock on the
file the first one has created but not yet initialised, and fails -/
theorem create_race_witness_pinned :
    ((ProcSys.initial 2 .missing).runPinned [0, 1, 1, 1]).noFailure = false := by
  decide

theorem repaired_order_passes_that_schedule :
    ((ProcSys.initial 2 .missing).run [0, 1, 1, 1]).noFailure = true :=
  ProcSys.noFailure_run _ _ nofun (ProcSys.noFailure_initial 2 .missing)

end Jamm
