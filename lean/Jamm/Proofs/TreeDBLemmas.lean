/-
The tree-based database refines the specification: every public operation returns what the specification
returns and commutes with `abs`, all trees stay well-formed, and a commit that preserves each bucket's
contents is invisible through `abs`.  A database is an association list path ↦ (counter, tree) and `abs` maps the
values, so two kinds of fact about `getBucket` / `setBucket` / `removeTree` / `commitWith` carry everything: they commute
with `abs`, and they keep any predicate that holds of every tree.  Each refinement proof walks the `TDB` and the `Spec`
program in step; `find_eq`, `absB_put`, `absB_del` are the only facts about trees it uses.
-/
import Jamm.Model.TreeDB
import Jamm.Proofs.TreeWF
open Std

namespace Jamm.TDB
open Jamm.Spec (Item Path)

section
variable {K V : Type}

def absB (b : TBucket K V) : Spec.Bucket K V := { nextInt := b.nextInt, items := b.tree.flatten }

theorem abs_eq (db : DB K V) : abs db = db.map (fun e => (e.1, absB e.2)) := rfl

theorem commitWith_invisible (f : Path K → Tree K (Item V) → Tree K (Item V)) (db : DB K V)
    (hf : ∀ e ∈ db, (f e.1 e.2.tree).flatten = e.2.tree.flatten) :
    abs (commitWith f db) = abs db := by
  unfold commitWith abs
  rw [List.map_map]
  apply List.map_congr_left
  intro e he
  simp only [Function.comp, hf e he]

theorem commitWith_all {P : Tree K (Item V) → Prop} {db : DB K V} (f : Path K → Tree K (Item V) → Tree K (Item V))
    (hf : ∀ e ∈ db, P (f e.1 e.2.tree)) : ∀ e ∈ commitWith f db, P e.2.tree := by
  intro e he
  obtain ⟨e', he', rfl⟩ := List.mem_map.mp he
  exact hf e' he'

theorem newTree_wf [Ord K] : WF none none (newTree : Tree K (Item V)) :=
  WF.leaf none none 0 [] trivial (by intro e he; cases he)

variable [DecidableEq K]

theorem getBucket_abs (db : DB K V) (p : Path K) :
    Spec.getBucket (abs db) p = (getBucket db p).map absB := by
  simp only [Spec.getBucket, getBucket, abs_eq, List.find?_map, Option.map_map]
  rfl

theorem abs_setBucket (db : DB K V) (p : Path K) (b : TBucket K V) :
    abs (setBucket db p b) = Spec.setBucket (abs db) p (absB b) := by
  simp only [abs_eq]
  unfold setBucket Spec.setBucket
  have hany : (db.map (fun e => (e.1, absB e.2))).any (fun e => decide (e.1 = p)) =
      db.any (fun e => decide (e.1 = p)) := by
    rw [List.any_map]; rfl
  rw [hany]
  cases db.any (fun e => decide (e.1 = p)) with
  | true =>
    simp only [if_true, List.map_map]
    apply List.map_congr_left
    intro e _
    simp only [Function.comp]
    split <;> rfl
  | false => simp [List.map_append]

theorem abs_removeTree (db : DB K V) (p : Path K) :
    abs (removeTree db p) = Spec.removeTree (abs db) p := by
  simp only [abs_eq, removeTree, Spec.removeTree, List.filter_map]
  rfl

theorem nextInt_refines (db : DB K V) (p : Path K) : nextInt db p = Spec.nextInt (abs db) p := by
  unfold nextInt Spec.nextInt
  rw [getBucket_abs]
  cases getBucket db p <;> rfl

theorem scan_refines (db : DB K V) (p : Path K) : scan db p = Spec.scan (abs db) p := by
  unfold scan Spec.scan
  rw [getBucket_abs]
  cases getBucket db p <;> rfl

theorem getBucket_mem {db : DB K V} {p : Path K} {b : TBucket K V} (h : getBucket db p = some b) :
    (p, b) ∈ db := by
  obtain ⟨e, he, rfl⟩ := Option.map_eq_some_iff.mp h
  have hp := List.find?_some he
  exact of_decide_eq_true hp ▸ List.mem_of_find?_eq_some he

theorem getBucket_cons_self (p : Path K) (b : TBucket K V) (db : DB K V) :
    getBucket ((p, b) :: db) p = some b := by
  simp [getBucket]

theorem mem_setBucket {db : DB K V} {p : Path K} {b : TBucket K V} {e : Path K × TBucket K V}
    (h : e ∈ setBucket db p b) : e ∈ db ∨ e = (p, b) := by
  unfold setBucket at h
  split at h
  · obtain ⟨e', he', rfl⟩ := List.mem_map.mp h
    split
    · exact Or.inr rfl
    · exact Or.inl he'
  · simpa using h

theorem mem_removeTree {db : DB K V} {p : Path K} {e : Path K × TBucket K V} (h : e ∈ removeTree db p) :
    e ∈ db :=
  (List.mem_filter.mp h).1

section All
variable {P : Tree K (Item V) → Prop} {db : DB K V}

theorem getBucket_all (hw : ∀ e ∈ db, P e.2.tree) {p : Path K} {b : TBucket K V}
    (h : getBucket db p = some b) : P b.tree :=
  hw _ (getBucket_mem h)

theorem setBucket_all (hw : ∀ e ∈ db, P e.2.tree) (p : Path K) (b : TBucket K V) (hb : P b.tree) :
    ∀ e ∈ setBucket db p b, P e.2.tree := by
  intro e he
  rcases mem_setBucket he with he | rfl
  · exact hw e he
  · exact hb

theorem removeTree_all (hw : ∀ e ∈ db, P e.2.tree) (p : Path K) : ∀ e ∈ removeTree db p, P e.2.tree :=
  fun e he => hw e (mem_removeTree he)

variable [Ord K]

/-- An operation leaves the database alone, or replaces the tree of the bucket it is called on by `put` / `del` of it,
after removing a subtree or before adding a new bucket. -/
theorem applyOp_all (hput : ∀ t k i, P t → P (t.put k i)) (hdel : ∀ t k, P t → P (t.del k))
    (hnew : P newTree) (h : ∀ e ∈ db, P e.2.tree) (op : Op K V) : ∀ e ∈ applyOp db op, P e.2.tree := by
  cases op with
  | put p k v =>
    rw [applyOp]
    unfold put
    cases hb : getBucket db p with
    | none => exact h
    | some b =>
      have hb' := hput _ k (.val v) (getBucket_all h hb)
      simp only
      cases find b.tree k with
      | none => exact setBucket_all h _ _ hb'
      | some i =>
        cases i with
        | bkt => exact h
        | val old => exact setBucket_all h _ _ hb'
  | delete p k =>
    rw [applyOp]
    unfold delete
    cases hb : getBucket db p with
    | none => exact h
    | some b =>
      simp only
      cases find b.tree k with
      | none => exact h
      | some i =>
        cases i with
        | bkt => exact h
        | val old => exact setBucket_all h _ _ (hdel _ _ (getBucket_all h hb))
  | getter p n s m =>
    rw [applyOp]
    unfold bucketGetter
    cases hb : getBucket db p with
    | none => exact h
    | some b =>
      simp only
      cases find b.tree n with
      | none =>
        cases s with
        | false => exact h
        | true => exact setBucket_all (setBucket_all h _ _ (hput _ _ _ (getBucket_all h hb))) _ _ hnew
      | some i =>
        cases i with
        | bkt => cases m <;> exact h
        | val old => exact h
  | deleteBucket p n =>
    rw [applyOp]
    unfold deleteBucket
    cases hb : getBucket db p with
    | none => exact h
    | some b =>
      simp only
      cases find b.tree n with
      | none => exact h
      | some i =>
        cases i with
        | val old => exact h
        | bkt => exact setBucket_all (removeTree_all h _) _ _ (hdel _ _ (getBucket_all h hb))

theorem applyOps_all (hput : ∀ t k i, P t → P (t.put k i)) (hdel : ∀ t k, P t → P (t.del k))
    (hnew : P newTree) (h : ∀ e ∈ db, P e.2.tree) (ops : List (Op K V)) :
    ∀ e ∈ ops.foldl applyOp db, P e.2.tree := by
  induction ops generalizing db with
  | nil => exact h
  | cons op rest ih => exact ih (applyOp_all hput hdel hnew h op)

end All
end

variable {K V : Type} [Ord K] [TransOrd K] [LawfulEqOrd K] [DecidableEq K]

theorem find_eq {t : Tree K (Item V)} (h : WF none none t) (k : K) :
    find t k = Spec.lookup k t.flatten := by
  unfold find
  rw [lookup_spec none none t h k, Option.map_map]
  cases Spec.lookup k t.flatten <;> rfl

theorem absB_put {t : Tree K (Item V)} (h : WF none none t) (n : Nat) (k : K) (i : Item V) :
    absB ⟨n, t.put k i⟩ = ⟨n, Spec.insert k i t.flatten⟩ :=
  congrArg (Spec.Bucket.mk n) (put_spec none none t h k i trivial trivial).1

theorem absB_del {t : Tree K (Item V)} (h : WF none none t) (n : Nat) (k : K) :
    absB ⟨n, t.del k⟩ = ⟨n, Spec.erase k t.flatten⟩ :=
  congrArg (Spec.Bucket.mk n) (del_spec none none t h k trivial trivial).1

-- `newTree_flatten`, `commitWith_wf`, `abs_empty`: the section's `TransOrd`, `LawfulEqOrd`, `DecidableEq` instances are
-- arguments of the statement and are not used
set_option linter.unusedSectionVars false in
theorem newTree_flatten : (newTree : Tree K (Item V)).flatten = [] := rfl

theorem applyOp_wf {db : DB K V} (h : AllWF db) (op : Op K V) : AllWF (applyOp db op) :=
  applyOp_all (fun t k i ht => (put_spec none none t ht k i trivial trivial).2)
    (fun t k ht => (del_spec none none t ht k trivial trivial).2) newTree_wf h op

theorem put_refines (db : DB K V) (h : AllWF db) (p : Path K) (k : K) (v : V) :
    (put db p k v).1 = (Spec.put (abs db) p k v).1 ∧
    abs (put db p k v).2 = (Spec.put (abs db) p k v).2 := by
  unfold put Spec.put
  rw [getBucket_abs]
  cases hb : getBucket db p with
  | none => exact ⟨rfl, rfl⟩
  | some b =>
    have hwb : WF none none b.tree := getBucket_all h hb
    simp only [Option.map_some, absB, ← find_eq hwb]
    cases find b.tree k with
    | none => exact ⟨rfl, by rw [abs_setBucket, absB_put hwb]⟩
    | some i =>
      cases i with
      | bkt => exact ⟨rfl, rfl⟩
      | val old => exact ⟨rfl, by rw [abs_setBucket, absB_put hwb]⟩

theorem get_refines (db : DB K V) (h : AllWF db) (p : Path K) (k : K) :
    get db p k = Spec.get (abs db) p k := by
  unfold get Spec.get
  rw [getBucket_abs]
  cases hb : getBucket db p with
  | none => rfl
  | some b => simp only [Option.map_some, absB, find_eq (getBucket_all h hb)]

theorem delete_refines (db : DB K V) (h : AllWF db) (p : Path K) (k : K) :
    (delete db p k).1 = (Spec.delete (abs db) p k).1 ∧
    abs (delete db p k).2 = (Spec.delete (abs db) p k).2 := by
  unfold delete Spec.delete
  rw [getBucket_abs]
  cases hb : getBucket db p with
  | none => exact ⟨rfl, rfl⟩
  | some b =>
    have hwb : WF none none b.tree := getBucket_all h hb
    simp only [Option.map_some, absB, ← find_eq hwb]
    cases find b.tree k with
    | none => exact ⟨rfl, rfl⟩
    | some i =>
      cases i with
      | bkt => exact ⟨rfl, rfl⟩
      | val old => exact ⟨rfl, by rw [abs_setBucket, absB_del hwb]⟩

/-- `get_bucket` / `create_bucket` / `get_or_create_bucket` -/
theorem bucketGetter_refines (db : DB K V) (h : AllWF db) (p : Path K) (name : K) (s m : Bool) :
    (bucketGetter db p name s m).1 = (Spec.bucketGetter (abs db) p name s m).1 ∧
    abs (bucketGetter db p name s m).2 = (Spec.bucketGetter (abs db) p name s m).2 := by
  unfold bucketGetter Spec.bucketGetter
  rw [getBucket_abs]
  cases hb : getBucket db p with
  | none => exact ⟨rfl, rfl⟩
  | some b =>
    have hwb : WF none none b.tree := getBucket_all h hb
    simp only [Option.map_some, absB, ← find_eq hwb]
    cases find b.tree name with
    | none =>
      cases s with
      | false => exact ⟨rfl, rfl⟩
      | true => exact ⟨rfl, by simp only [if_true, abs_setBucket, absB_put hwb]; rfl⟩
    | some i =>
      cases i with
      | bkt => cases m <;> exact ⟨rfl, rfl⟩
      | val old => exact ⟨rfl, rfl⟩

theorem deleteBucket_refines (db : DB K V) (h : AllWF db) (p : Path K) (name : K) :
    (deleteBucket db p name).1 = (Spec.deleteBucket (abs db) p name).1 ∧
    abs (deleteBucket db p name).2 = (Spec.deleteBucket (abs db) p name).2 := by
  unfold deleteBucket Spec.deleteBucket
  rw [getBucket_abs]
  cases hb : getBucket db p with
  | none => exact ⟨rfl, rfl⟩
  | some b =>
    have hwb : WF none none b.tree := getBucket_all h hb
    simp only [Option.map_some, absB, ← find_eq hwb]
    cases find b.tree name with
    | none => exact ⟨rfl, rfl⟩
    | some i =>
      cases i with
      | val old => exact ⟨rfl, rfl⟩
      | bkt => exact ⟨rfl, by rw [abs_setBucket, abs_removeTree, absB_del hwb]⟩

theorem applyOp_refines (db : DB K V) (h : AllWF db) (op : Op K V) :
    abs (applyOp db op) = Spec.applyTOp (abs db) op := by
  cases op with
  | put p k v => exact (put_refines db h p k v).2
  | delete p k => exact (delete_refines db h p k).2
  | getter p n s m => exact (bucketGetter_refines db h p n s m).2
  | deleteBucket p n => exact (deleteBucket_refines db h p n).2

theorem applyOps_refines (db : DB K V) (h : AllWF db) (ops : List (Op K V)) :
    abs (ops.foldl applyOp db) = ops.foldl Spec.applyTOp (abs db) ∧ AllWF (ops.foldl applyOp db) := by
  induction ops generalizing db with
  | nil => exact ⟨rfl, h⟩
  | cons op rest ih =>
    rw [List.foldl_cons, List.foldl_cons, ← applyOp_refines db h op]
    exact ih _ (applyOp_wf h op)

set_option linter.unusedSectionVars false in
theorem commitWith_wf (f : Path K → Tree K (Item V) → Tree K (Item V)) (db : DB K V)
    (hf : ∀ e ∈ db, WF none none (f e.1 e.2.tree)) : AllWF (commitWith f db) :=
  commitWith_all f hf

set_option linter.unusedSectionVars false in
/-- the literal is the database of a new file: the root bucket, an empty leaf -/
theorem abs_empty : abs ([([], { nextInt := 0, tree := newTree })] : DB K V) = Spec.empty := by
  rfl

end Jamm.TDB
