/-
Byte-level commit atomicity, the composition: from a file that holds a state under one header slot,
* every file that keeps the bytes the state owns — whatever else was written, in whatever subset, torn at whatever
  granularity — still opens as that state, as long as the other header slot is unchanged or does not verify
  (`crash_shows_old`);
* the completed commit (`commitFile`: data writes, then the sealed header into the other slot) opens as the new
  state, still holds the previous state under the old slot (the fallback of C12 / the "previous snapshot"), and is
  again `Committed` (so the statement iterates over any number of commits).  This rests on one statement about a header
  page that changes alone (`switch_of_header_page`);
* the same for any `s1` in which the new state's pages are stored, however they got there (`header_write_commits`,
  `Committed.step`; `cow_commit_atomic` for the writer `cowCommitData`), for a header write that did not complete
  (`incomplete_header_write_old_or_new`), and iterated (`Commits`, `commits_stay_committed`).
-/
import Jamm.Proofs.CommitFileData
namespace Jamm

section
variable (L : Layout) (order : List MetaField) (pagesize : Nat)

theorem crash_shows_old (WE : L.WF) (W : L.WFM) (hrec : L.pgPtr + L.metaSize ≤ pagesize)
    (hhdr : L.pageSize ≤ pagesize) (ov : Nat → Nat) (s c : Src) (slot : Nat) (hslot : slot = 0 ∨ slot = 1)
    (old : Opened) (h : Holds L order pagesize ov s slot old)
    (k : KeepsState pagesize ov s c slot old)
    (hother : OtherLoses pagesize slot (slotValid L order c pagesize (1 - slot)) old.hdr)
    (fuel : Nat) (hf : old.view.weight ≤ fuel) :
    openFile L order pagesize fuel c = some old := by
  have hc := h.transfer L order pagesize WE W hrec hhdr k
  exact opens_of_holds_wins hslot hc hother fuel hf

/-- the shape of a file between commits; pages ≥ 2: outside both header pages -/
def Committed (ov : Nat → Nat) (s : Src) (slot : Nat) (st : Opened) : Prop :=
  Holds L order pagesize ov s slot st ∧ (∀ r ∈ st.runs ov, 2 ≤ r.1) ∧
  OtherLoses pagesize slot (slotValid L order s pagesize (1 - slot)) st.hdr

/-- `HeaderOK` (at `ov' = ov`, `s1 = s`, see `CommitOK.headerOK`) plus what the data writes `commitData` need
(`commitData_stores`, `commitData_keeps_old`) -/
structure CommitOK (ov : Nat → Nat) (s : Src) (old new : Opened) : Prop where
  fit : new.view.fits L pagesize ov s.size
  disj : (new.runs ov).Pairwise runsDisjoint
  above : ∀ r ∈ new.runs ov, 2 ≤ r.1
  sep : ∀ a ∈ old.runs ov, ∀ b ∈ new.runs ov, runsDisjoint a b
  flfile : new.hdr.freelistPage * pagesize + (new.flOverflow + 1) * pagesize ≤ s.size
  flfit : L.pgPtr + 8 * new.free.length ≤ (new.flOverflow + 1) * pagesize
  flid : new.hdr.freelistPage < 2 ^ 64
  flrun : (new.flOverflow + 1) * pagesize < 2 ^ 64
  free : ∀ x ∈ new.free, x < 2 ^ 64
  ok : ViewOK new.view
  root : new.hdr.rootPage = new.view.tree.pid
  next : new.hdr.nextInt = new.view.nextInt
  hfits : new.hdr.fits L = true
  valid : metaValid L order new.hdr = true
  ps : new.hdr.pagesize = pagesize
  newer : new.hdr.txId > old.hdr.txId
  file : 2 * pagesize ≤ s.size

/-- what the header write of a commit needs of the new state, however its pages got into the file (written by this
commit, or shared with the previous state and already there) -/
structure HeaderOK (ov' : Nat → Nat) (s1 : Src) (old new : Opened) : Prop where
  above : ∀ r ∈ new.runs ov', 2 ≤ r.1
  ok : ViewOK new.view
  root : new.hdr.rootPage = new.view.tree.pid
  next : new.hdr.nextInt = new.view.nextInt
  hfits : new.hdr.fits L = true
  valid : metaValid L order new.hdr = true
  ps : new.hdr.pagesize = pagesize
  newer : new.hdr.txId > old.hdr.txId
  file : 2 * pagesize ≤ s1.size

/-- the files reachable from a file `(s, slot, st, ov)` by ANY NUMBER of completed copy-on-write commits: each step
takes the current file to some `s1` that keeps the current state's bytes and stores the next state's pages (its data
writes, whatever they are), then writes the next header into the other slot -/
inductive Commits : Src → Nat → Opened → (Nat → Nat) → Src → Nat → Opened → (Nat → Nat) → Prop where
  | refl (s : Src) (slot : Nat) (st : Opened) (ov : Nat → Nat) : Commits s slot st ov s slot st ov
  | step {s : Src} {slot : Nat} {st : Opened} {ov : Nat → Nat} {s' : Src} {slot' : Nat} {st' : Opened}
      {ov' : Nat → Nat} (s1 : Src) (new : Opened) (ov'' : Nat → Nat) :
      Commits s slot st ov s' slot' st' ov' →
      KeepsState pagesize ov' s' s1 slot' st' →
      StoredV L pagesize ov'' s1 new.view →
      (∃ p, decodePage L s1 pagesize new.hdr.freelistPage = .ok p ∧ p.body = .freelist new.free ∧
        p.overflow = new.flOverflow) →
      HeaderOK L order pagesize ov'' s1 st' new →
      Commits s slot st ov (writeMetaPage L pagesize (1 - slot') new.hdr s1) (1 - slot') new ov''

end

section
variable {L : Layout} {order : List MetaField} {pagesize : Nat}

theorem Committed.holds {ov : Nat → Nat} {s : Src} {slot : Nat} {st : Opened}
    (h : Committed L order pagesize ov s slot st) : Holds L order pagesize ov s slot st := h.1

theorem Committed.above {ov : Nat → Nat} {s : Src} {slot : Nat} {st : Opened}
    (h : Committed L order pagesize ov s slot st) : ∀ r ∈ st.runs ov, 2 ≤ r.1 := h.2.1

theorem Committed.other {ov : Nat → Nat} {s : Src} {slot : Nat} {st : Opened}
    (h : Committed L order pagesize ov s slot st) :
    OtherLoses pagesize slot (slotValid L order s pagesize (1 - slot)) st.hdr := h.2.2

theorem committed_opens {ov : Nat → Nat} {s : Src} {slot : Nat} (hslot : slot = 0 ∨ slot = 1) {st : Opened}
    (h : Committed L order pagesize ov s slot st) (fuel : Nat) (hf : st.view.weight ≤ fuel) :
    openFile L order pagesize fuel s = some st :=
  opens_of_holds_wins hslot h.holds h.other fuel hf

theorem committed_survives (WE : L.WF) (W : L.WFM) (hrec : L.pgPtr + L.metaSize ≤ pagesize)
    (hhdr : L.pageSize ≤ pagesize) (ov : Nat → Nat) (s c : Src) (slot : Nat) (hslot : slot = 0 ∨ slot = 1)
    (old : Opened) (h : Committed L order pagesize ov s slot old) (k : KeepsState pagesize ov s c slot old)
    (hother : Src.AgreeOn s c ((1 - slot) * pagesize) ((1 - slot) * pagesize + pagesize) ∨
      slotValid L order c pagesize (1 - slot) = none)
    (fuel : Nat) (hf : old.view.weight ≤ fuel) :
    openFile L order pagesize fuel c = some old := by
  refine crash_shows_old L order pagesize WE W hrec hhdr ov s c slot hslot old h.holds k ?_ fuel hf
  rcases hother with e | e
  · rw [slotValid_agree L order pagesize W hrec s c (1 - slot) k.size e]
    exact h.other
  · exact .of_none e

theorem commitData_keeps_old (hE : L.WFEnc = true) (hL : L.WFMeta = true)
    {ov : Nat → Nat} {s : Src} {slot : Nat} (hslot : slot = 0 ∨ slot = 1) {old new : Opened}
    (c : CommitOK L order pagesize ov s old new) :
    KeepsState pagesize ov s (commitData L pagesize ov new s) slot old := by
  rw [commitData_eq_cow]
  exact cowCommitData_keeps_old hE hL _ s hslot c.fit c.flfit c.above
    (by rw [new.freshRuns_all ov]; exact c.sep)

theorem HeaderOK.of_size {ov' : Nat → Nat} {s s1 : Src} {old new : Opened} (c : HeaderOK L order pagesize ov' s old new)
    (h : s1.size = s.size) : HeaderOK L order pagesize ov' s1 old new :=
  { c with file := h ▸ c.file }

theorem CommitOK.headerOK {ov : Nat → Nat} {s : Src} {old new : Opened} (c : CommitOK L order pagesize ov s old new) :
    HeaderOK L order pagesize ov s old new :=
  { above := c.above, ok := c.ok, root := c.root, next := c.next, hfits := c.hfits, valid := c.valid, ps := c.ps,
    newer := c.newer, file := c.file }

/-- `d` is any source that differs from `s1` only inside the header page of the other slot: the file after a completed
header write, or after a torn one that happens to verify -/
theorem switch_of_header_page (WE : L.WF) (W : L.WFM) (hrec : L.pgPtr + L.metaSize ≤ pagesize)
    (hhdr : L.pageSize ≤ pagesize) {ov ov' : Nat → Nat} {s1 d : Src} {slot : Nat} (hslot : slot = 0 ∨ slot = 1)
    {old new : Opened} (hold1 : Holds L order pagesize ov s1 slot old) (habove : ∀ r ∈ old.runs ov, 2 ≤ r.1)
    (hdata : DataStored L pagesize ov' s1 new) (c : HeaderOK L order pagesize ov' s1 old new) (hsz : d.size = s1.size)
    (hout : ∀ i, RunOut pagesize [(1 - slot, 0)] i → d.get i = s1.get i)
    (e : slotValid L order d pagesize (1 - slot) = some new.hdr) :
    Committed L order pagesize ov' d (1 - slot) new ∧ Holds L order pagesize ov d slot old := by
  have hold : Holds L order pagesize ov d slot old := hold1.transfer L order pagesize WE W hrec hhdr
    (keepsState_of_header_page ov s1 d slot hslot old hsz hout habove)
  have hnew : Holds L order pagesize ov' d (1 - slot) new :=
    holds_of_header_page WE hhdr (other_slot hslot) hsz hout e c.ps hdata c.ok c.root c.next c.above
  refine ⟨⟨hnew, c.above, ?_⟩, hold⟩
  -- the rival of the new header is the old one, with the smaller transaction id
  rw [other_other hslot, hold.valid]
  exact .of_older hold1.ps c.newer

theorem header_write_commits (WE : L.WF) (W : L.WFM) (hrec : L.pgPtr + L.metaSize ≤ pagesize)
    (hhdr : L.pageSize ≤ pagesize) {ov ov' : Nat → Nat} {s1 : Src} {slot : Nat} (hslot : slot = 0 ∨ slot = 1)
    {old new : Opened} (hold1 : Holds L order pagesize ov s1 slot old) (habove : ∀ r ∈ old.runs ov, 2 ≤ r.1)
    (hdata : DataStored L pagesize ov' s1 new) (c : HeaderOK L order pagesize ov' s1 old new) :
    Committed L order pagesize ov' (writeMetaPage L pagesize (1 - slot) new.hdr s1) (1 - slot) new ∧
    Holds L order pagesize ov (writeMetaPage L pagesize (1 - slot) new.hdr s1) slot old :=
  have hfile : (1 - slot) * pagesize + pagesize ≤ s1.size :=
    Nat.le_trans (header_page_end_le (other_slot hslot) (Nat.le_refl 2)) c.file
  have hw := writeMetaPage_writes W hrec (1 - slot) new.hdr
  switch_of_header_page WE W hrec hhdr hslot hold1 habove hdata c (hw.size s1)
    (fun _ => hw.get s1) (slotValid_writeMetaPage W _ new.hdr s1 hfile hrec c.hfits c.valid)

theorem Committed.step (WE : L.WF) (W : L.WFM) (hrec : L.pgPtr + L.metaSize ≤ pagesize) (hhdr : L.pageSize ≤ pagesize)
    {ov ov' : Nat → Nat} {s s1 : Src} {slot : Nat} (hslot : slot = 0 ∨ slot = 1) {old new : Opened}
    (h : Committed L order pagesize ov s slot old) (k : KeepsState pagesize ov s s1 slot old)
    (hdata : DataStored L pagesize ov' s1 new) (c : HeaderOK L order pagesize ov' s1 old new) :
    Committed L order pagesize ov' (writeMetaPage L pagesize (1 - slot) new.hdr s1) (1 - slot) new ∧
    Holds L order pagesize ov (writeMetaPage L pagesize (1 - slot) new.hdr s1) slot old :=
  header_write_commits WE W hrec hhdr hslot (h.holds.transfer L order pagesize WE W hrec hhdr k) h.above hdata c

theorem commit_commits (hE : L.WFEnc = true) (hL : L.WFMeta = true) (hrec : L.pgPtr + L.metaSize ≤ pagesize)
    (hhdr : L.pageSize ≤ pagesize) {ov : Nat → Nat} {s : Src} {slot : Nat} (hslot : slot = 0 ∨ slot = 1)
    {old new : Opened} (h : Holds L order pagesize ov s slot old) (habove : ∀ r ∈ old.runs ov, 2 ≤ r.1)
    (c : CommitOK L order pagesize ov s old new) :
    Committed L order pagesize ov (commitFile L pagesize ov (1 - slot) new s) (1 - slot) new ∧
    Holds L order pagesize ov (commitFile L pagesize ov (1 - slot) new s) slot old := by
  have WE := Layout.WF.of L hE
  have W := Layout.WFM.of L hL
  obtain ⟨hdata, hsz, _⟩ := commitData_stores hE hL hhdr ov new s c.fit c.disj c.flfile c.flfit c.flid c.flrun c.free
  exact header_write_commits WE W hrec hhdr hslot
    (h.transfer L order pagesize WE W hrec hhdr (commitData_keeps_old hE hL hslot c)) habove
    hdata (c.headerOK.of_size hsz)

end

section
variable (L : Layout) (order : List MetaField) (pagesize : Nat)

/-- `header_write_commits` with `Committed` written out and `open` of the result; `s1` is any source: which pages this
commit wrote and which it shares with the previous state does not matter -/
theorem header_write_switches (hE : L.WFEnc = true) (hL : L.WFMeta = true) (hrec : L.pgPtr + L.metaSize ≤ pagesize)
    (hhdr : L.pageSize ≤ pagesize) (ov ov' : Nat → Nat) (s1 : Src) (slot : Nat) (hslot : slot = 0 ∨ slot = 1)
    (old new : Opened) (hold1 : Holds L order pagesize ov s1 slot old) (habove : ∀ r ∈ old.runs ov, 2 ≤ r.1)
    (hst : StoredV L pagesize ov' s1 new.view)
    (hfl : ∃ p, decodePage L s1 pagesize new.hdr.freelistPage = .ok p ∧ p.body = .freelist new.free ∧
      p.overflow = new.flOverflow)
    (c : HeaderOK L order pagesize ov' s1 old new) (fuel : Nat) (hf : new.view.weight ≤ fuel) :
    openFile L order pagesize fuel (writeMetaPage L pagesize (1 - slot) new.hdr s1) = some new ∧
    Holds L order pagesize ov' (writeMetaPage L pagesize (1 - slot) new.hdr s1) (1 - slot) new ∧
    Holds L order pagesize ov (writeMetaPage L pagesize (1 - slot) new.hdr s1) slot old ∧
    OtherLoses pagesize (1 - slot)
      (slotValid L order (writeMetaPage L pagesize (1 - slot) new.hdr s1) pagesize (1 - (1 - slot))) new.hdr := by
  obtain ⟨hcom, hold⟩ := header_write_commits (Layout.WF.of L hE) (Layout.WFM.of L hL) hrec hhdr hslot
    hold1 habove ⟨hst, hfl⟩ c
  exact ⟨committed_opens (other_slot hslot) hcom fuel hf, hcom.holds, hold, hcom.other⟩

/-- `commit_commits` with `Committed` written out and `openFile` of the result -/
theorem commit_shows_new (hE : L.WFEnc = true) (hL : L.WFMeta = true) (hrec : L.pgPtr + L.metaSize ≤ pagesize)
    (hhdr : L.pageSize ≤ pagesize) (ov : Nat → Nat) (s : Src) (slot : Nat) (hslot : slot = 0 ∨ slot = 1)
    (old new : Opened) (h : Holds L order pagesize ov s slot old) (habove : ∀ r ∈ old.runs ov, 2 ≤ r.1)
    (c : CommitOK L order pagesize ov s old new) (fuel : Nat) (hf : new.view.weight ≤ fuel) :
    openFile L order pagesize fuel (commitFile L pagesize ov (1 - slot) new s) = some new ∧
    Holds L order pagesize ov (commitFile L pagesize ov (1 - slot) new s) (1 - slot) new ∧
    Holds L order pagesize ov (commitFile L pagesize ov (1 - slot) new s) slot old ∧
    OtherLoses pagesize (1 - slot)
      (slotValid L order (commitFile L pagesize ov (1 - slot) new s) pagesize (1 - (1 - slot))) new.hdr := by
  obtain ⟨hcom, hold⟩ := commit_commits hE hL hrec hhdr hslot h habove c
  exact ⟨committed_opens (other_slot hslot) hcom fuel hf, hcom.holds, hold, hcom.other⟩

/-- a header write that did not complete (short write, write error after some bytes reached the file, torn page): `d`
is any byte source that differs from `s1` at most inside the new header page.  `hno`: what that page now holds either
does not verify or verifies as exactly the new record — the premise a checksum cannot give unconditionally (no mix of
old and new header bytes verifies as something else); it is evaluated on every tear / short write the run synthesises -/
theorem incomplete_header_write_old_or_new (hE : L.WFEnc = true) (hL : L.WFMeta = true)
    (hrec : L.pgPtr + L.metaSize ≤ pagesize) (hhdr : L.pageSize ≤ pagesize) (ov ov' : Nat → Nat) (s1 d : Src)
    (slot : Nat) (hslot : slot = 0 ∨ slot = 1) (old new : Opened)
    (hold1 : Holds L order pagesize ov s1 slot old) (habove : ∀ r ∈ old.runs ov, 2 ≤ r.1)
    (hst : StoredV L pagesize ov' s1 new.view)
    (hfl : ∃ p, decodePage L s1 pagesize new.hdr.freelistPage = .ok p ∧ p.body = .freelist new.free ∧
      p.overflow = new.flOverflow)
    (c : HeaderOK L order pagesize ov' s1 old new)
    (hsz : d.size = s1.size)
    (hout : ∀ i, i < (1 - slot) * pagesize ∨ (1 - slot) * pagesize + pagesize ≤ i → d.get i = s1.get i)
    (hno : slotValid L order d pagesize (1 - slot) = none ∨ slotValid L order d pagesize (1 - slot) = some new.hdr)
    (fuel : Nat) (hfo : old.view.weight ≤ fuel) (hfn : new.view.weight ≤ fuel) :
    openFile L order pagesize fuel d = some old ∨ openFile L order pagesize fuel d = some new := by
  have WE := Layout.WF.of L hE
  have W := Layout.WFM.of L hL
  have hout : ∀ i, RunOut pagesize [(1 - slot, 0)] i → d.get i = s1.get i := fun i hi => hout i (runOut_page.1 hi)
  rcases hno with e | e
  · exact .inl (crash_shows_old L order pagesize WE W hrec hhdr ov s1 d slot hslot old hold1
      (keepsState_of_header_page ov s1 d slot hslot old hsz hout habove) (.of_none e) fuel hfo)
  · exact .inr (committed_opens (other_slot hslot)
      (switch_of_header_page WE W hrec hhdr hslot hold1 habove ⟨hst, hfl⟩ c hsz hout e).1 fuel hfn)

theorem commits_stay_committed (hE : L.WFEnc = true) (hL : L.WFMeta = true) (hrec : L.pgPtr + L.metaSize ≤ pagesize)
    (hhdr : L.pageSize ≤ pagesize) {s : Src} {slot : Nat} {st : Opened} {ov : Nat → Nat} {s' : Src} {slot' : Nat}
    {st' : Opened} {ov' : Nat → Nat} (hslot : slot = 0 ∨ slot = 1)
    (h0 : Committed L order pagesize ov s slot st)
    (hc : Commits L order pagesize s slot st ov s' slot' st' ov') :
    (slot' = 0 ∨ slot' = 1) ∧ Committed L order pagesize ov' s' slot' st' ∧
    ∀ fuel, st'.view.weight ≤ fuel → openFile L order pagesize fuel s' = some st' := by
  induction hc with
  | refl => exact ⟨hslot, h0, fun fuel hf => committed_opens hslot h0 fuel hf⟩
  | step s1 new ov'' _ hk hst hfl hh ih =>
    obtain ⟨hs', hcom, _⟩ := ih
    obtain ⟨hnew, _⟩ := hcom.step (Layout.WF.of L hE) (Layout.WFM.of L hL) hrec hhdr hs' hk ⟨hst, hfl⟩ hh
    exact ⟨other_slot hs', hnew, fun fuel hf => committed_opens (other_slot hs') hnew fuel hf⟩

-- to the end of the section, for `hfresh2`
set_option linter.unusedVariables false
/-- Conjunct 1 is about the file after ALL data writes; with `crash_shows_old` any part of
them does as well.  `hfresh2` is not used: it follows from `c.above` (`Opened.freshRuns_subset`) -/
theorem cow_commit_atomic (hE : L.WFEnc = true) (hL : L.WFMeta = true) (hrec : L.pgPtr + L.metaSize ≤ pagesize)
    (hhdr : L.pageSize ≤ pagesize) (fresh : Nat → Bool) (ov ov' : Nat → Nat) (s : Src) (slot : Nat)
    (hslot : slot = 0 ∨ slot = 1) (old new : Opened)
    (h0 : Committed L order pagesize ov s slot old)
    (hfit : new.view.fits L pagesize ov' s.size)
    (hdisj : (new.runs ov').Pairwise runsDisjoint)
    (hsh : SharedV L pagesize fresh ov' s new.view)
    (hflfile : new.hdr.freelistPage * pagesize + (new.flOverflow + 1) * pagesize ≤ s.size)
    (hflfit : L.pgPtr + 8 * new.free.length ≤ (new.flOverflow + 1) * pagesize)
    (hflid : new.hdr.freelistPage < 2 ^ 64) (hflrun : (new.flOverflow + 1) * pagesize < 2 ^ 64)
    (hfree : ∀ x ∈ new.free, x < 2 ^ 64)
    (hfresh2 : ∀ r ∈ new.freshRuns fresh ov', 2 ≤ r.1)
    (hsep : ∀ a ∈ old.runs ov, ∀ b ∈ new.freshRuns fresh ov', runsDisjoint a b)
    (c : HeaderOK L order pagesize ov' s old new) (fuel : Nat) (hfo : old.view.weight ≤ fuel)
    (hfn : new.view.weight ≤ fuel) :
    openFile L order pagesize fuel (cowCommitData L pagesize fresh ov' new s) = some old ∧
    openFile L order pagesize fuel
      (writeMetaPage L pagesize (1 - slot) new.hdr (cowCommitData L pagesize fresh ov' new s)) = some new ∧
    Committed L order pagesize ov'
      (writeMetaPage L pagesize (1 - slot) new.hdr (cowCommitData L pagesize fresh ov' new s)) (1 - slot) new ∧
    Holds L order pagesize ov
      (writeMetaPage L pagesize (1 - slot) new.hdr (cowCommitData L pagesize fresh ov' new s)) slot old := by
  have WE := Layout.WF.of L hE
  have W := Layout.WFM.of L hL
  obtain ⟨hdata, hsz, _⟩ := cowCommitData_stores hE hL hhdr fresh ov' new s hfit hdisj hsh hflfile hflfit hflid
    hflrun hfree
  have hk : ∀ {sl}, sl = 0 ∨ sl = 1 → KeepsState pagesize ov s (cowCommitData L pagesize fresh ov' new s) sl old :=
    fun hsl => cowCommitData_keeps_old hE hL fresh s hsl hfit hflfit c.above hsep
  obtain ⟨hcom, hold⟩ := h0.step WE W hrec hhdr hslot (hk hslot) hdata (c.of_size hsz)
  exact ⟨committed_survives WE W hrec hhdr ov s _ slot hslot old h0 (hk hslot)
    (.inl (hk (other_slot hslot)).page) fuel hfo, committed_opens (other_slot hslot) hcom fuel hfn, hcom, hold⟩

end
end Jamm
