/-
Layer S: a whole tree written to pages reads back as the same tree.

The writer proved about is the copy-on-write one (`writeFreshT`): only the nodes on FRESH pages are written, every
other node is shared with the previous commit and already decodes from its own page (`SharedT`).  The full writer of
the model (`writeTreeT`) is the case "every page fresh".  A node is its own page (`Tree.page`, written by
`writeNodePage`) and the list of its children: leaves and branches are told apart in the lemmas about that page only.
The results: `writeFreshT_writes` (what the writer may touch), `writeFreshT_stored` (what is there afterwards; the
induction over the children is `foldl_stores`), `unfoldT_stored` (reading back).
-/
import Jamm.Proofs.DecodePageLocal
import Jamm.Proofs.ForestLemmas

namespace Jamm

section
variable (L : Layout) (pagesize : Nat)

mutual
/-- copy-on-write writer: only the nodes on fresh pages are written; the others are already in the file (`Bucket::spill` →
`Node::spill` / `Node::write`: only nodes materialised in the transaction are written, to newly allocated pages) -/
def writeFreshT (fresh : Nat → Bool) (ov : Nat → Nat) : Tree Bytes LeafVal → Src → Src
  | .leaf p es, s => if fresh p then writeLeafPage L pagesize p (ov p) es s else s
  | .branch p kids, s =>
    writeFreshF fresh ov kids (if fresh p then writeBranchPage L pagesize p (ov p) (Forest.entries kids) s else s)
def writeFreshF (fresh : Nat → Bool) (ov : Nat → Nat) : Forest Bytes LeafVal → Src → Src
  | .nil, s => s
  | .cons _ t rest, s => writeFreshF fresh ov rest (writeFreshT fresh ov t s)
end

mutual
/-- the nodes that are NOT rewritten decode from their own pages (an earlier commit stored them) -/
def SharedT (fresh : Nat → Bool) (ov : Nat → Nat) (s : Src) : Tree Bytes LeafVal → Prop
  | .leaf p es => fresh p = false →
    decodePage L s pagesize p = .ok { id := p, overflow := ov p, count := es.length, body := .leaf es }
  | .branch p kids =>
    (fresh p = false → decodePage L s pagesize p =
      .ok { id := p, overflow := ov p, count := (Forest.entries kids).length, body := .branch (Forest.entries kids) }) ∧
    SharedF fresh ov s kids
def SharedF (fresh : Nat → Bool) (ov : Nat → Nat) (s : Src) : Forest Bytes LeafVal → Prop
  | .nil => True
  | .cons _ t rest => SharedT fresh ov s t ∧ SharedF fresh ov s rest
end

mutual
def freshRunsT (fresh : Nat → Bool) (ov : Nat → Nat) : Tree Bytes LeafVal → List (Nat × Nat)
  | .leaf p _ => if fresh p then [(p, ov p)] else []
  | .branch p kids => (if fresh p then [(p, ov p)] else []) ++ freshRunsF fresh ov kids
def freshRunsF (fresh : Nat → Bool) (ov : Nat → Nat) : Forest Bytes LeafVal → List (Nat × Nat)
  | .nil => []
  | .cons _ t rest => freshRunsT fresh ov t ++ freshRunsF fresh ov rest
end

mutual
def StoredT (ov : Nat → Nat) (s : Src) : Tree Bytes LeafVal → Prop
  | .leaf p es =>
    decodePage L s pagesize p = .ok { id := p, overflow := ov p, count := es.length, body := .leaf es }
  | .branch p kids =>
    decodePage L s pagesize p =
      .ok { id := p, overflow := ov p, count := (Forest.entries kids).length, body := .branch (Forest.entries kids) } ∧
    StoredF ov s kids
def StoredF (ov : Nat → Nat) (s : Src) : Forest Bytes LeafVal → Prop
  | .nil => True
  | .cons _ t rest => StoredT ov s t ∧ StoredF ov s rest
end

def Tree.page (ov : Nat → Nat) : Tree Bytes LeafVal → LPage
  | .leaf p es => { id := p, overflow := ov p, count := es.length, body := .leaf es }
  | .branch p kids =>
    { id := p, overflow := ov p, count := (Forest.entries kids).length, body := .branch (Forest.entries kids) }

def writeNodePage (ov : Nat → Nat) : Tree Bytes LeafVal → Src → Src
  | .leaf p es, s => writeLeafPage L pagesize p (ov p) es s
  | .branch p kids, s => writeBranchPage L pagesize p (ov p) (Forest.entries kids) s

end

section
variable {L : Layout} {pagesize : Nat}

theorem Tree.page_reads (W : L.WF) (hhdr : L.pageSize ≤ pagesize) (ov : Nat → Nat) (t : Tree Bytes LeafVal) :
    ReadsRuns pagesize [(t.pid, ov t.pid)] (fun s => decodePage L s pagesize t.pid = .ok (t.page ov)) := by
  cases t with
  | leaf p es => exact decodePage_reads W hhdr p (Tree.page ov (.leaf p es)) (fun _ h => by cases h)
  | branch p kids => exact decodePage_reads W hhdr p (Tree.page ov (.branch p kids)) (fun _ h => by cases h)

theorem writeNodePage_size (ov : Nat → Nat) (t : Tree Bytes LeafVal) (s : Src) :
    (writeNodePage L pagesize ov t s).size = s.size := by
  cases t
  · rw [writeNodePage, writeLeafPage_eq, applyWrites_size]
  · rw [writeNodePage, writeBranchPage_eq, applyWrites_size]

theorem writeFreshT_eq (fresh : Nat → Bool) (ov : Nat → Nat) (t : Tree Bytes LeafVal) (s : Src) :
    writeFreshT L pagesize fresh ov t s =
      writeFreshF L pagesize fresh ov t.kids (if fresh t.pid then writeNodePage L pagesize ov t s else s) := by
  cases t <;> rfl

theorem sharedT_iff {fresh : Nat → Bool} {ov : Nat → Nat} {s : Src} {t : Tree Bytes LeafVal} :
    SharedT L pagesize fresh ov s t ↔
      (fresh t.pid = false → decodePage L s pagesize t.pid = .ok (t.page ov)) ∧ SharedF L pagesize fresh ov s t.kids := by
  cases t
  · exact (and_iff_left trivial).symm
  · rfl

theorem storedT_iff {ov : Nat → Nat} {s : Src} {t : Tree Bytes LeafVal} :
    StoredT L pagesize ov s t ↔ decodePage L s pagesize t.pid = .ok (t.page ov) ∧ StoredF L pagesize ov s t.kids := by
  cases t
  · exact (and_iff_left trivial).symm
  · rfl

theorem nodeRunsT_eq (ov : Nat → Nat) (t : Tree Bytes LeafVal) :
    nodeRunsT ov t = (t.pid, ov t.pid) :: nodeRunsF ov t.kids := by
  cases t <;> rfl

theorem freshRunsT_eq (fresh : Nat → Bool) (ov : Nat → Nat) (t : Tree Bytes LeafVal) :
    freshRunsT fresh ov t = (if fresh t.pid then [(t.pid, ov t.pid)] else []) ++ freshRunsF fresh ov t.kids := by
  cases t
  · exact (List.append_nil _).symm
  · rfl

theorem nodesFit_leaf_iff {ov : Nat → Nat} {sz p : Nat} {es : List (Bytes × LeafVal)} :
    nodesFit L pagesize ov sz (.leaf p es) = true ↔
      leafBytes L es ≤ (ov p + 1) * pagesize ∧ p * pagesize + (ov p + 1) * pagesize ≤ sz ∧ p < 2 ^ 64 ∧
      (ov p + 1) * pagesize < 2 ^ 64 ∧ ∀ e ∈ es, e.2.fits = true := by
  simp only [nodesFit, Bool.and_eq_true, decide_eq_true_eq, List.all_eq_true, and_assoc]

theorem nodesFit_branch_iff {ov : Nat → Nat} {sz p : Nat} {kids : Forest Bytes LeafVal} :
    nodesFit L pagesize ov sz (.branch p kids) = true ↔
      branchBytes L (Forest.entries kids) ≤ (ov p + 1) * pagesize ∧ p * pagesize + (ov p + 1) * pagesize ≤ sz ∧
      p < 2 ^ 64 ∧ (ov p + 1) * pagesize < 2 ^ 64 ∧ nodesFitF L pagesize ov sz kids = true := by
  simp only [nodesFit, Bool.and_eq_true, decide_eq_true_eq, and_assoc]

theorem nodesFit_kids {ov : Nat → Nat} {sz : Nat} {t : Tree Bytes LeafVal} (h : nodesFit L pagesize ov sz t = true) :
    nodesFitF L pagesize ov sz t.kids = true := by
  cases t with
  | leaf p es => rfl
  | branch p kids => exact (nodesFit_branch_iff.1 h).2.2.2.2

theorem nodesFit_pid {ov : Nat → Nat} {sz : Nat} {t : Tree Bytes LeafVal}
    (h : nodesFit L pagesize ov sz t = true) : t.pid < 2 ^ 64 := by
  cases t with
  | leaf p es => exact (nodesFit_leaf_iff.1 h).2.2.1
  | branch p kids => exact (nodesFit_branch_iff.1 h).2.2.1

theorem nodesFitF_entries_lt (ov : Nat → Nat) (sz : Nat) (f : Forest Bytes LeafVal)
    (h : nodesFitF L pagesize ov sz f = true) : ∀ e ∈ Forest.entries f, e.2 < 2 ^ 64 := by
  induction f using Forest.ind with
  | nil => exact fun _ he => nomatch he
  | cons k t rest ih =>
    simp only [nodesFitF, Bool.and_eq_true] at h
    exact List.forall_mem_cons.2 ⟨nodesFit_pid h.1, ih h.2⟩

theorem decode_writeNodePage (W : L.WF) (hhdr : L.pageSize ≤ pagesize) (ov : Nat → Nat)
    (t : Tree Bytes LeafVal) (s : Src) (hfit : nodesFit L pagesize ov s.size t = true) :
    decodePage L (writeNodePage L pagesize ov t s) pagesize t.pid = .ok (t.page ov) := by
  cases t with
  | leaf p es =>
    obtain ⟨hbytes, hfile, hpid, hrun, hvals⟩ := nodesFit_leaf_iff.1 hfit
    exact decode_writeLeafPage W hhdr p (ov p) es s hfile hbytes hpid hrun hvals
  | branch p kids =>
    obtain ⟨hbytes, hfile, hpid, hrun, hkids⟩ := nodesFit_branch_iff.1 hfit
    exact decode_writeBranchPage W hhdr p (ov p) _ s hfile hbytes hpid hrun (nodesFitF_entries_lt ov _ kids hkids)

theorem writeFreshF_eq (fresh : Nat → Bool) (ov : Nat → Nat) : ∀ (f : Forest Bytes LeafVal) (s : Src),
    writeFreshF L pagesize fresh ov f s = f.toList.foldl (fun acc e => writeFreshT L pagesize fresh ov e.2 acc) s
  | .nil, _ => rfl
  | .cons _ t r, s => by rw [writeFreshF, writeFreshF_eq fresh ov r]; rfl

theorem sharedF_iff {fresh : Nat → Bool} {ov : Nat → Nat} {s : Src} {f : Forest Bytes LeafVal} :
    SharedF L pagesize fresh ov s f ↔ ∀ e ∈ f.toList, SharedT L pagesize fresh ov s e.2 :=
  Forest.forall_iff (P := fun e => SharedT L pagesize fresh ov s e.2) trivial (fun _ _ _ => Iff.rfl) f

theorem storedF_iff {ov : Nat → Nat} {s : Src} {f : Forest Bytes LeafVal} :
    StoredF L pagesize ov s f ↔ ∀ e ∈ f.toList, StoredT L pagesize ov s e.2 :=
  Forest.forall_iff (P := fun e => StoredT L pagesize ov s e.2) trivial (fun _ _ _ => Iff.rfl) f

theorem nodesFitF_iff {ov : Nat → Nat} {sz : Nat} {f : Forest Bytes LeafVal} :
    nodesFitF L pagesize ov sz f = true ↔ ∀ e ∈ f.toList, nodesFit L pagesize ov sz e.2 = true :=
  Forest.forall_iff (Φ := fun f => nodesFitF L pagesize ov sz f = true)
    (P := fun e => nodesFit L pagesize ov sz e.2 = true) rfl (fun _ _ _ => by simp only [nodesFitF, Bool.and_eq_true]) f

theorem nodeRunsF_eq (ov : Nat → Nat) (f : Forest Bytes LeafVal) :
    nodeRunsF ov f = f.toList.flatMap (fun e => nodeRunsT ov e.2) :=
  Forest.eq_flatMap rfl (fun _ _ _ => rfl) f

theorem freshRunsF_eq (fresh : Nat → Bool) (ov : Nat → Nat) (f : Forest Bytes LeafVal) :
    freshRunsF fresh ov f = f.toList.flatMap (fun e => freshRunsT fresh ov e.2) :=
  Forest.eq_flatMap rfl (fun _ _ _ => rfl) f

theorem writeFreshT_size (fresh : Nat → Bool) (ov : Nat → Nat) (t : Tree Bytes LeafVal) :
    ∀ s, (writeFreshT L pagesize fresh ov t s).size = s.size := by
  induction t using Tree.ind_kids with
  | _ t ih =>
    intro s
    rw [writeFreshT_eq, writeFreshF_eq, foldl_unchanged _ Src.size _ ih]
    split
    · exact writeNodePage_size ov t s
    · rfl

theorem writeNodePage_writes (W : L.WF) (ov : Nat → Nat) (sz : Nat) (t : Tree Bytes LeafVal)
    (hfit : nodesFit L pagesize ov sz t = true) :
    WritesRuns pagesize [(t.pid, ov t.pid)] (writeNodePage L pagesize ov t) := by
  cases t with
  | leaf p es => exact .of_frame (nodesFit_leaf_iff.1 hfit).1 fun s =>
      ⟨writeNodePage_size ov (.leaf p es) s, writeLeafPage_frame W pagesize p (ov p) es s⟩
  | branch p kids => exact .of_frame (nodesFit_branch_iff.1 hfit).1 fun s =>
      ⟨writeNodePage_size ov (.branch p kids) s, writeBranchPage_frame W pagesize p (ov p) _ s⟩

theorem writeFreshT_writes (hE : L.WFEnc = true) (fresh : Nat → Bool) (ov : Nat → Nat) (sz : Nat) (t : Tree Bytes LeafVal)
    (hfit : nodesFit L pagesize ov sz t = true) :
    WritesRuns pagesize (freshRunsT fresh ov t) (writeFreshT L pagesize fresh ov t) := by
  induction t using Tree.ind_kids with
  | _ t ih =>
    intro s
    have hk := nodesFitF_iff.1 (nodesFit_kids hfit)
    rw [freshRunsT_eq, freshRunsF_eq, writeFreshT_eq, writeFreshF_eq]
    exact (((writeNodePage_writes (Layout.WF.of L hE) ov sz t hfit).ite (fresh t.pid)).then
      (WritesRuns.foldl fun e he => ih e he (hk e he))) s

end

section
variable (L : Layout) (pagesize : Nat)

theorem writeFreshT_get (hL : L.WFEnc = true) (fresh : Nat → Bool) (ov : Nat → Nat) (sz : Nat)
    (t : Tree Bytes LeafVal) (s : Src) (i : Nat)
    (hfit : nodesFit L pagesize ov sz t = true) (h : RunOut pagesize (freshRunsT fresh ov t) i) :
    (writeFreshT L pagesize fresh ov t s).get i = s.get i :=
  (writeFreshT_writes hL fresh ov sz t hfit).get s h

end

section
variable {L : Layout} {pagesize : Nat}

theorem freshRunsT_eq_filter (fresh : Nat → Bool) (ov : Nat → Nat) (t : Tree Bytes LeafVal) :
    freshRunsT fresh ov t = (nodeRunsT ov t).filter (fun r => fresh r.1) := by
  induction t using Tree.ind_kids with
  | _ t ih =>
    rw [freshRunsT_eq, freshRunsF_eq, nodeRunsT_eq, nodeRunsF_eq, List.filter_cons, List.filter_flatMap,
      List.flatMap_def, List.flatMap_def, List.map_congr_left ih]
    split <;> rfl

theorem freshRunsT_subset (fresh : Nat → Bool) (ov : Nat → Nat) (t : Tree Bytes LeafVal) :
    freshRunsT fresh ov t ⊆ nodeRunsT ov t := by
  rw [freshRunsT_eq_filter]
  exact List.filter_sublist.subset

theorem sharedT_noneFresh (ov : Nat → Nat) (s : Src) (t : Tree Bytes LeafVal) :
    SharedT L pagesize (fun _ => false) ov s t ↔ StoredT L pagesize ov s t := by
  induction t using Tree.ind_kids with
  | _ t ih =>
    rw [sharedT_iff, sharedF_iff, storedT_iff, storedF_iff]
    exact and_congr ⟨fun h => h rfl, fun h _ => h⟩ (forall₂_congr ih)

theorem sharedT_reads (W : L.WF) (hhdr : L.pageSize ≤ pagesize) (fresh : Nat → Bool) (ov : Nat → Nat)
    (t : Tree Bytes LeafVal) : ReadsRuns pagesize (nodeRunsT ov t) (fun s => SharedT L pagesize fresh ov s t) := by
  induction t using Tree.ind_kids with
  | _ t ih =>
    intro s s' hsz hag h
    rw [sharedT_iff, sharedF_iff] at h ⊢
    rw [nodeRunsT_eq, nodeRunsF_eq, List.forall_mem_cons] at hag
    exact ⟨fun hf => Tree.page_reads W hhdr ov t s s' hsz (fun r hr => List.mem_singleton.1 hr ▸ hag.1) (h.1 hf),
      fun e he => ih e he s s' hsz (fun r hr => hag.2 r (List.mem_flatMap.2 ⟨e, he, hr⟩)) (h.2 e he)⟩

theorem storedT_reads (W : L.WF) (hhdr : L.pageSize ≤ pagesize) (ov : Nat → Nat) (t : Tree Bytes LeafVal) :
    ReadsRuns pagesize (nodeRunsT ov t) (fun s => StoredT L pagesize ov s t) :=
  fun s s' hsz hag h => (sharedT_noneFresh ov s' t).1
    (sharedT_reads W hhdr _ ov t s s' hsz hag ((sharedT_noneFresh ov s t).2 h))

mutual
theorem writeTreeT_eq_fresh (ov : Nat → Nat) (t : Tree Bytes LeafVal) (s : Src) :
    writeTreeT L pagesize ov t s = writeFreshT L pagesize (fun _ => true) ov t s := by
  match t with
  | .leaf p es => rfl
  | .branch p kids =>
    exact writeTreeF_eq_fresh ov kids _
theorem writeTreeF_eq_fresh (ov : Nat → Nat) (f : Forest Bytes LeafVal) (s : Src) :
    writeTreeF L pagesize ov f s = writeFreshF L pagesize (fun _ => true) ov f s := by
  match f with
  | .nil => rfl
  | .cons k t rest =>
    simp only [writeTreeF, writeFreshF]
    rw [writeTreeT_eq_fresh ov t, writeTreeF_eq_fresh ov rest]
end

theorem sharedT_allFresh (ov : Nat → Nat) (s : Src) (t : Tree Bytes LeafVal) :
    SharedT L pagesize (fun _ => true) ov s t := by
  induction t using Tree.ind_kids with
  | _ t ih =>
    rw [sharedT_iff, sharedF_iff]
    exact ⟨fun h => (nomatch h), ih⟩

end

section
variable (L : Layout) (pagesize : Nat)

theorem writeFreshT_stored (hL : L.WFEnc = true) (hhdr : L.pageSize ≤ pagesize) (fresh : Nat → Bool) (ov : Nat → Nat)
    (sz : Nat) (t : Tree Bytes LeafVal) (s : Src) (hs : s.size = sz)
    (hfit : nodesFit L pagesize ov sz t = true) (hdisj : (nodeRunsT ov t).Pairwise runsDisjoint)
    (hsh : SharedT L pagesize fresh ov s t) :
    StoredT L pagesize ov (writeFreshT L pagesize fresh ov t s) t := by
  induction t using Tree.ind_kids generalizing s with
  | _ t ih =>
    have W := Layout.WF.of L hL
    rw [nodeRunsT_eq, nodeRunsF_eq, List.pairwise_cons, List.pairwise_flatMap] at hdisj
    obtain ⟨hown, hin, hbetween⟩ := hdisj
    rw [sharedT_iff, sharedF_iff] at hsh
    have hk := nodesFitF_iff.1 (nodesFit_kids hfit)
    -- the goal in the shape of `foldl_stores`' conclusion: the children are the members, each taken from `SharedT` to
    -- `StoredT` on its own runs; the node's own page, written first (if fresh), is the bystander
    rw [writeFreshT_eq, writeFreshF_eq, storedT_iff, storedF_iff]
    have hw1 := (writeNodePage_writes W ov sz t hfit).ite_same (fresh t.pid)
    have hd : decodePage L (if fresh t.pid = true then writeNodePage L pagesize ov t s else s) pagesize t.pid =
        .ok (t.page ov) := by
      split
      · exact decode_writeNodePage W hhdr ov t s (hs ▸ hfit)
      · exact hsh.1 (Bool.eq_false_iff.2 ‹_›)
    exact foldl_stores sz (w := fun e => writeFreshT L pagesize fresh ov e.2) (rs := fun e => nodeRunsT ov e.2)
      (Pre := fun e s => SharedT L pagesize fresh ov s e.2) (Post := fun e s => StoredT L pagesize ov s e.2)
      (l := t.kids.toList) (P₀ := fun s => decodePage L s pagesize t.pid = .ok (t.page ov)) (rs₀ := [(t.pid, ov t.pid)])
      (hw := fun e he => (writeFreshT_writes hL fresh ov sz e.2 (hk e he)).mono (freshRunsT_subset fresh ov e.2))
      (hpre := fun e _ => sharedT_reads W hhdr fresh ov e.2) (hpost := fun e _ => storedT_reads W hhdr ov e.2)
      (hstep := fun e he s hs => ih e he s hs (hk e he) (hin e he)) (hdisj := hbetween)
      (hP₀ := Tree.page_reads W hhdr ov t)
      (hd₀ := fun x hx e he y hy => List.mem_singleton.1 hx ▸ hown y (List.mem_flatMap.2 ⟨e, he, hy⟩))
      _ ((hw1.size s).trans hs) hd
      fun e he => (sharedT_reads W hhdr fresh ov e.2).after hw1
        (fun x hx b hb => List.mem_singleton.1 hb ▸ runsDisjoint_symm (hown x (List.mem_flatMap.2 ⟨e, he, hx⟩)))
        (hsh.2 e he)

theorem writeFreshF_stored (hL : L.WFEnc = true) (hhdr : L.pageSize ≤ pagesize) (fresh : Nat → Bool) (ov : Nat → Nat)
    (sz : Nat) (f : Forest Bytes LeafVal) (s : Src) (hs : s.size = sz)
    (hfit : nodesFitF L pagesize ov sz f = true) (hdisj : (nodeRunsF ov f).Pairwise runsDisjoint)
    (hsh : SharedF L pagesize fresh ov s f) :
    StoredF L pagesize ov (writeFreshF L pagesize fresh ov f s) f := by
  have W := Layout.WF.of L hL
  rw [nodeRunsF_eq, List.pairwise_flatMap] at hdisj
  rw [sharedF_iff] at hsh
  rw [nodesFitF_iff] at hfit
  rw [writeFreshF_eq, storedF_iff]
  -- as in `writeFreshT_stored`, with nothing standing by
  exact (foldl_stores sz (w := fun e => writeFreshT L pagesize fresh ov e.2) (rs := fun e => nodeRunsT ov e.2)
    (Pre := fun e s => SharedT L pagesize fresh ov s e.2) (Post := fun e s => StoredT L pagesize ov s e.2)
    (l := f.toList) (P₀ := fun _ => True) (rs₀ := [])
    (hw := fun e he => (writeFreshT_writes hL fresh ov sz e.2 (hfit e he)).mono (freshRunsT_subset fresh ov e.2))
    (hpre := fun e _ => sharedT_reads W hhdr fresh ov e.2) (hpost := fun e _ => storedT_reads W hhdr ov e.2)
    (hstep := fun e he s hs => writeFreshT_stored L pagesize hL hhdr fresh ov sz e.2 s hs (hfit e he) (hdisj.1 e he))
    (hdisj := hdisj.2) (hP₀ := fun _ _ _ _ h => h) (hd₀ := fun _ hx => nomatch hx) s hs trivial hsh).2

theorem StoredF.agree (W : L.WF) (hhdr : L.pageSize ≤ pagesize) (ov : Nat → Nat) (s s' : Src) (hsz : s'.size = s.size)
    (f : Forest Bytes LeafVal) (h : StoredF L pagesize ov s f)
    (hag : ∀ r ∈ nodeRunsF ov f, Src.AgreeOn s s' (r.1 * pagesize) ((r.1 + r.2 + 1) * pagesize)) :
    StoredF L pagesize ov s' f := by
  rw [storedF_iff] at h ⊢
  rw [nodeRunsF_eq] at hag
  exact fun e he => storedT_reads W hhdr ov e.2 s s' hsz
    (fun r hr => hag r (List.mem_flatMap.2 ⟨e, he, hr⟩)) (h e he)

theorem writeTreeF_stored (hL : L.WFEnc = true) (hhdr : L.pageSize ≤ pagesize) (ov : Nat → Nat) (sz : Nat)
    (f : Forest Bytes LeafVal) (s : Src) (hs : s.size = sz)
    (hfit : nodesFitF L pagesize ov sz f = true) (hdisj : (nodeRunsF ov f).Pairwise runsDisjoint) :
    StoredF L pagesize ov (writeTreeF L pagesize ov f s) f := by
  rw [writeTreeF_eq_fresh]
  exact writeFreshF_stored L pagesize hL hhdr _ ov sz f s hs hfit hdisj
    (sharedF_iff.2 fun e _ => sharedT_allFresh ov s e.2)

theorem pageStoreOf_of_decode {s : Src} {p : Nat} {pg : LPage} (h : decodePage L s pagesize p = .ok pg) :
    pageStoreOf L pagesize s p = some pg := by
  rw [pageStoreOf, h]

mutual
theorem unfoldT_stored (ov : Nat → Nat) (s : Src) (t : Tree Bytes LeafVal) (h : StoredT L pagesize ov s t)
    (fuel : Nat) (hf : t.nodes ≤ fuel) : unfoldT (pageStoreOf L pagesize s) fuel t.pid = some t := by
  match t, fuel with
  | .leaf p es, 0 => exact absurd hf (Nat.not_succ_le_zero _)
  | .leaf p es, fuel + 1 => rw [Tree.pid, unfoldT, pageStoreOf_of_decode L pagesize h]
  | .branch p kids, 0 => exact absurd hf (Nat.not_succ_le_zero _)
  | .branch p kids, fuel + 1 =>
    rw [Tree.pid, unfoldT, pageStoreOf_of_decode L pagesize h.1]
    show (unfoldF _ fuel (Forest.entries kids)).map _ = _
    rw [unfoldF_stored ov s kids h.2 fuel (Nat.le_of_succ_le_succ hf)]
    rfl
theorem unfoldF_stored (ov : Nat → Nat) (s : Src) (f : Forest Bytes LeafVal) (h : StoredF L pagesize ov s f)
    (fuel : Nat) (hf : Tree.nodesF f ≤ fuel) :
    unfoldF (pageStoreOf L pagesize s) fuel (Forest.entries f) = some f := by
  match f with
  | .nil => rw [Forest.entries, unfoldF]
  | .cons k t rest =>
    rw [Forest.entries, unfoldF, unfoldT_stored ov s t h.1 fuel (Nat.le_trans (Nat.le_add_right _ _) hf),
      unfoldF_stored ov s rest h.2 fuel (Nat.le_trans (Nat.le_add_left _ _) hf)]
end

/-- C01 `written_tree_reads_back`, for any layout -/
theorem unfold_writeTree (hL : L.WFEnc = true) (hhdr : L.pageSize ≤ pagesize) (ov : Nat → Nat)
    (t : Tree Bytes LeafVal) (s : Src)
    (hfit : nodesFit L pagesize ov s.size t = true)
    (hdisj : (nodeRunsT ov t).Pairwise runsDisjoint)
    (fuel : Nat) (hfuel : t.nodes ≤ fuel) :
    unfoldT (pageStoreOf L pagesize (writeTreeT L pagesize ov t s)) fuel t.pid = some t := by
  rw [writeTreeT_eq_fresh]
  exact unfoldT_stored L pagesize ov _ t
    (writeFreshT_stored L pagesize hL hhdr _ ov s.size t s rfl hfit hdisj (sharedT_allFresh ov s t)) fuel hfuel

/-- C01 `written_tree_is_local`, for any layout -/
theorem writeTree_frame (hE : L.WFEnc = true) (ov : Nat → Nat) (t : Tree Bytes LeafVal) (s : Src) (i : Nat)
    (hfit : nodesFit L pagesize ov s.size t = true)
    (h : ∀ r ∈ nodeRunsT ov t, i < r.1 * pagesize ∨ (r.1 + r.2 + 1) * pagesize ≤ i) :
    (writeTreeT L pagesize ov t s).get i = s.get i := by
  rw [writeTreeT_eq_fresh]
  exact (writeFreshT_writes hE _ ov s.size t hfit).get s (RunOut.mono h (freshRunsT_subset _ ov t))

end
end Jamm
