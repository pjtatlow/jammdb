/-
What the independent checker established (`GoodView`) gives the walk of `implCheckLoop` its `Owns`
certificate: the bucket rooted at `root` owns exactly `expandRuns (v.runs pg)` (`view_owns`).  `view_owns` is an
induction on the view's fuel; inside, `tree_owns` / `forest_owns` recurse on the tree with the statement for the nested
buckets (`ihb`) as a section variable.  `wf_keysAsc_aux`: `WF` gives the walk's key test; `implCheck_of_checkFile` puts
`view_owns`, the free-list page and `checkFile_ok`'s permutation together.
-/
import Jamm.Proofs.ImplCheckWalk
import Jamm.Proofs.CheckFileSound
import Jamm.Proofs.TreeWF

namespace Jamm

mutual
/-- what the walk tests of the keys: strictly ascending within each page (`WF` orders them across pages too) -/
def Tree.keysAsc : Tree Bytes LeafVal → Prop
  | .leaf _ es => strictlyAscending (es.map (·.1)) = true
  | .branch _ kids => strictlyAscending kids.keys = true ∧ Forest.keysAsc kids
def Forest.keysAsc : Forest Bytes LeafVal → Prop
  | .nil => True
  | .cons _ t rest => Tree.keysAsc t ∧ Forest.keysAsc rest
end

theorem strictlyAscending_of_sorted : ∀ (es : List (Bytes × LeafVal)), Spec.Sorted es →
    strictlyAscending (es.map (·.1)) = true
  | [], _ => rfl
  | [_], _ => rfl
  | (a, _) :: (b, y) :: rest, h => by
    simp only [Spec.Sorted] at h
    have ih := strictlyAscending_of_sorted ((b, y) :: rest) h.2
    simp only [List.map_cons] at ih
    simp only [List.map_cons, strictlyAscending, h.1, ih, Bool.and_self]

theorem wf_keysAsc_aux :
    (∀ lo hi (t : Tree Bytes LeafVal), WF lo hi t → t.keysAsc) ∧
    (∀ lo hi k (t : Tree Bytes LeafVal) rest, WFF lo hi k t rest →
      strictlyAscending (k :: rest.keys) = true ∧ t.keysAsc ∧ rest.keysAsc) :=
  wf_induct
    (leaf := fun _ _ _ es hs _ => strictlyAscending_of_sorted es hs)
    (branch := fun _ _ _ _ _ _ _ ih => ih)
    (last := fun _ _ _ _ _ ih => ⟨rfl, ih, trivial⟩)
    (cons := fun _ _ _ _ _ _ _ hk _ _ _ _ iht ihr =>
      ⟨by rw [Forest.keys_cons, strictlyAscending, hk, ihr.1]; rfl, iht, ihr.2⟩)

theorem wff_keysAsc (lo hi : Option Bytes) (f : Forest Bytes LeafVal) (h : WFForest lo hi f) :
    strictlyAscending f.keys = true ∧ f.keysAsc :=
  match f, h with
  | .cons k t rest, h => wf_keysAsc_aux.2 lo hi k t rest h

theorem expandRuns_runOf_cons {pg : PageStore} {pid : Nat} {p : LPage} (hp : pg pid = some p) (ps : List Nat) :
    expandRuns ((pid :: ps).map (runOf pg)) = pageRun pid p.overflow ++ expandRuns (ps.map (runOf pg)) := by
  rw [pageRun_eq_map, List.map_cons, runOf, hp, expandRuns, List.flatMap_cons]
  rfl

section
variable (pg : PageStore) (fl f : Nat)
  (ihb : ∀ r v, GoodView pg f r v → Owns pg fl [r] (expandRuns (v.runs pg)))
include ihb

theorem subs_owns : ∀ (sb : List (Bytes × Nat × Nat)) (vs : List (Bytes × BucketView)), GoodSubs pg f sb vs →
    Owns pg fl ((sb.map (·.2.1)).reverse) (expandRuns (vs.flatMap (fun s => s.2.runs pg)))
  | [], vs, h => h.nil_inv ▸ Owns.nil
  | (k, r, n) :: sb, vs, h => by
    obtain ⟨v, vs', rfl, hv, -, hrest⟩ := h.cons_inv
    simp only [List.map_cons, List.reverse_cons, List.flatMap_cons, expandRuns_append]
    -- the walk takes the last pushed first, the runs list the first first
    exact Owns.perm _ _ _ ((subs_owns sb vs' hrest).append (ihb r v hv)) List.perm_append_comm

-- to the end of the section: `forest_owns` uses `ihb` only through `tree_owns`, which the linter does not see inside
-- the `mutual` block
set_option linter.unusedSectionVars false
mutual
theorem tree_owns (t : Tree Bytes LeafVal) (fuel pid : Nat) (vs : List (Bytes × BucketView))
    (hu : unfoldT pg fuel pid = some t) (hk : t.keysAsc) (hs : GoodSubs pg f (subBuckets t.flatten) vs) :
    Owns pg fl [pid] (expandRuns (t.pids.map (runOf pg)) ++ expandRuns (vs.flatMap (fun s => s.2.runs pg))) := by
  match t with
  | .leaf _ es =>
    obtain ⟨_, p, _, hp, rfl, hb⟩ := unfoldT_inv hu
    rw [Tree.pids, expandRuns_runOf_cons hp, List.map_nil, expandRuns_nil, List.append_nil]
    exact Owns.leaf _ p es [] _ hp hb hk (by rw [List.append_nil]; exact subs_owns pg fl f ihb _ _ hs)
  | .branch _ kids =>
    obtain ⟨f', p, _, hp, rfl, es, hb, hf⟩ := unfoldT_inv hu
    rw [Tree.pids, expandRuns_runOf_cons hp, List.append_assoc]
    exact Owns.branch _ p es [] _ hp hb (unfoldF_keys kids f' es hf ▸ hk.1)
      (by rw [List.append_nil]; exact forest_owns kids f' es vs hf hk.2 hs)
theorem forest_owns (kids : Forest Bytes LeafVal) (fuel : Nat) (es : List (Bytes × Nat))
    (vs : List (Bytes × BucketView))
    (hu : unfoldF pg fuel es = some kids) (hk : kids.keysAsc)
    (hs : GoodSubs pg f (subBuckets (Tree.flattenF kids)) vs) :
    Owns pg fl ((es.map (·.2)).reverse)
      (expandRuns (kids.pids.map (runOf pg)) ++ expandRuns (vs.flatMap (fun s => s.2.runs pg))) := by
  match kids with
  | .nil =>
    rw [unfoldF_inv hu, hs.nil_inv]
    exact Owns.nil
  | .cons k t rest =>
    obtain ⟨c, es', rfl, h1, h2⟩ := unfoldF_inv hu
    simp only [Tree.flattenF, subBuckets, List.filterMap_append] at hs
    obtain ⟨va, vb, rfl, ha, hb⟩ := GoodSubs.split _ _ _ hs
    simp only [List.map_cons, List.reverse_cons, Forest.pids, List.map_append, List.flatMap_append,
      expandRuns_append]
    -- in `perm_swap4`: `a`, `c` = pages and nested buckets of `t`; `b`, `d` = those of `rest`
    exact Owns.perm _ _ _ ((forest_owns rest fuel es' vb h2 hk.2 hb).append (tree_owns t fuel c va h1 hk.1 ha))
      (perm_swap4 _ _ _ _)
end

end

theorem view_owns (pg : PageStore) (fl : Nat) : ∀ (fuel root : Nat) (v : BucketView), GoodView pg fuel root v →
    Owns pg fl [root] (expandRuns (v.runs pg)) := by
  intro fuel
  induction fuel with
  | zero => exact fun root v h => absurd h.fuel_pos (Nat.lt_irrefl 0)
  | succ f ih =>
    intro root v h
    rw [BucketView.runs_eq, expandRuns_append]
    exact tree_owns pg fl f ih v.tree (f + 1) root v.subs h.unfold (wf_keysAsc_aux.1 _ _ _ h.wf) h.subs

/-- `checkFile` accepts ⇒ `TxInner::check` (as modelled) accepts: no page is reached twice, every overflow
page and every free-list entry is still unseen when it is visited, keys are strictly ascending within each
page, and when the walk ends no page is left over -/
theorem implCheck_of_checkFile (mt : MetaRec) (pg : PageStore) (fileSize pagesize : Nat) (sum : FileSummary)
    (h : checkFile mt pg fileSize pagesize = .ok sum) :
    implCheck mt pg = .ok () := by
  obtain ⟨hg, _, hreach, ⟨fp, hfp, hbody, hflrun⟩, hperm, _⟩ := checkFile_ok h
  rw [hflrun, ← pageRun_eq_map] at hperm
  have hown : Owns pg mt.freelistPage [mt.freelistPage, mt.rootPage]
      (pageRun mt.freelistPage fp.overflow ++ (sum.free ++ sum.reach)) := by
    rw [hreach]
    exact Owns.freelist fp sum.free _ _ hfp hbody (view_owns pg mt.freelistPage _ _ _ hg)
  -- the initial set of unseen pages is what the stack owns, and nothing else
  have hp : ((List.range (mt.numPages - 2)).map (· + 2)).Perm
      (pageRun mt.freelistPage fp.overflow ++ (sum.free ++ sum.reach) ++ []) := by
    rw [List.append_nil, ← List.append_assoc]
    exact hperm.symm.trans (List.append_assoc .. ▸ List.perm_append_comm)
  have hlen := hp.length_eq
  rw [List.length_map, List.length_range, List.append_nil] at hlen
  obtain ⟨res, r1, r2⟩ := implCheckLoop_owns hown (mt.numPages + 2) (by omega) hp
  rw [implCheck, r1, r2.eq_nil]

end Jamm
