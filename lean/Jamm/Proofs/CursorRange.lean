/-
The range iterator.  On the first call the start cursor has exactly the entries satisfying the start bound yet to
yield (`range_position`, from `Spec.SeekOk`); draining is the cursor's own drain cut by `takeWhile` at the end bound (`range_drain_eq`), which
`range_spec` turns into `Spec.range`'s filter.
-/
import Jamm.Proofs.CursorSearch
open Std

namespace Jamm

section lists
variable {K : Type} [Ord K] [TransOrd K] {E : Type} [LawfulEqOrd K] [DecidableEq K]

def skip1 {β : Type} (q : β → Bool) : List β → List β
  | [] => []
  | d :: l => if q d then l else d :: l

theorem skip1_dropWhile {β : Type} (q : β → Bool) (l : List β) : skip1 q (l.dropWhile q) = l.dropWhile q := by
  have hd := List.head?_dropWhile_not q l
  cases h : l.dropWhile q with
  | nil => rfl
  | cons d l' =>
    rw [h] at hd
    simp [skip1, show q d = false from hd]

/-- The `klt d.1 key` disjunct is never true under the second hypothesis; it is carried because this is the test
`Range::next` makes for an excluded start (`data.key() < s || (exclusive && data.key() == s)`, cursor.rs:265). -/
theorem filter_gt_eq_skip1 (key : K) : ∀ {F : List (K × E)}, Spec.Sorted F → (∀ e ∈ F, kle key e.1 = true) →
    F.filter (fun e => klt key e.1) = skip1 (fun d => klt d.1 key || decide (d.1 = key)) F
  | [], _, _ => rfl
  | (b, y) :: F', hs, hF => by
    rw [Spec.sorted_cons] at hs
    by_cases hk : b = key
    · subst hk
      rw [List.filter_cons_of_neg (by simp [klt_irrefl]), List.filter_eq_self.mpr hs.1]
      simp [skip1]
    · have hgt : klt key b = true := klt_of_kle_of_ne (hF (b, y) List.mem_cons_self) hk
      rw [List.filter_eq_self.mpr fun e he =>
        (List.mem_cons.mp he).elim (fun h => h ▸ hgt) fun he => klt_trans hgt (hs.1 e he)]
      simp [skip1, klt_asymm hgt, hk]

/-- The included / excluded start bound of `Range::next`.  The entries at or above `key` are `fromKey`; after a seek the
cursor has them yet to yield, behind at most one entry below `key`, which both skip tests remove. -/
theorem Spec.SeekOk.filter_eq_skip1 {key : K} {flat : List (K × E)} {ex : Bool} {out : List (K × E)}
    (hs : Spec.Sorted flat) (h : Spec.SeekOk flat key ex out) :
    flat.filter (fun e => kle key e.1) = skip1 (fun d => klt d.1 key) out ∧
    flat.filter (fun e => klt key e.1) = skip1 (fun d => klt d.1 key || decide (d.1 = key)) out := by
  have hF := Spec.fromKey_eq_filter hs key
  have hmem : ∀ e ∈ Spec.fromKey flat key, e ∈ flat ∧ kle key e.1 = true := fun e he => by
    rw [hF] at he
    simpa using he
  have hsF : Spec.Sorted (Spec.fromKey flat key) := by
    rw [hF, Spec.sorted_iff_pairwise]
    exact (Spec.sorted_iff_pairwise.mp hs).filter _
  -- strictly above `key` is: at or above `key`, and then strictly above
  have hgt : flat.filter (fun e => klt key e.1) = (Spec.fromKey flat key).filter (fun e => klt key e.1) := by
    rw [hF, List.filter_filter]
    exact List.filter_congr fun e _ => by cases h : klt key e.1 <;> simp [kle_of_klt, *]
  rw [hgt, ← hF]
  obtain ⟨hex, rfl | ⟨rfl, p, hp, rfl⟩⟩ := h
  · exact ⟨(skip1_dropWhile _ _).symm, filter_gt_eq_skip1 key hsF fun e he => (hmem e he).2⟩
  · have hpk : klt p.1 key = true := List.all_eq_true.mp List.all_takeWhile p (List.mem_of_getLast? hp)
    refine ⟨by simp [skip1, hpk], ?_⟩
    -- `key` is absent (`hex`), so everything at or above it is strictly above
    rw [List.filter_eq_self.mpr fun e he => klt_of_kle_of_ne (hmem e he).2 fun hk => ?_]
    · simp [skip1, hpk]
    · rw [← hk, Spec.lookup_of_mem hs (x := e.2) (hmem e he).1] at hex
      cases hex

end lists

section
variable {K E : Type}

/-- the optional skip `RangeIt.next` performs after its seek -/
def skipCursor (q : K × E → Bool) (c' : Cursor K E) : Cursor K E :=
  match current c'.stack with
  | some d => if q d then c'.next.2 else c'
  | none => c'

theorem skipCursor_spec (t : Tree K E) (q : K × E → Bool) (c' : Cursor K E) (hc : CInv t c')
    (hcur : current c'.stack = (pending c').head?) :
    CInv t (skipCursor q c') ∧ pending (skipCursor q c') = skip1 q (pending c') := by
  unfold skipCursor
  rw [hcur]
  cases hp : pending c' with
  | nil => simp only [List.head?_nil, skip1]; exact ⟨hc, hp⟩
  | cons d l =>
    simp only [List.head?_cons, skip1]
    by_cases hq : q d = true
    · simp only [hq, if_true]
      obtain ⟨_, h2, h4⟩ := next_spec t c' hc
      exact ⟨h2, by rw [h4, hp]; rfl⟩
    · simp only [hq, Bool.false_eq_true, if_false]
      exact ⟨hc, hp⟩

variable [Ord K]

/-- the second half of `RangeIt.next`, once the start cursor is chosen -/
def rangeStep (r : RangeIt K E) (c1 : Cursor K E) : Option (K × E) × RangeIt K E :=
  match c1.next with
  | (none, c2) => (none, { r with c := c2 })
  | (some d, c2) =>
    if Spec.belowHi r.hi d.1 then (some d, { r with c := c2 }) else (none, { r with c := c2 })

variable [DecidableEq K]

theorem range_next_called (r : RangeIt K E) (h : r.c.nextCalled = true) :
    r.next = rangeStep r r.c := by
  unfold RangeIt.next rangeStep; simp only [h, Bool.not_true, Bool.false_eq_true, if_false]; rfl

/-- `Range::next` treats an included and an excluded start alike, up to the test for skipping the entry the seek
landed on -/
theorem range_next_first (c : Cursor K E) (hc : c.nextCalled = false) (lo hi : Spec.Bound K) :
    RangeIt.next { c := c, lo := lo, hi := hi } =
      rangeStep { c := c, lo := lo, hi := hi }
        (match lo with
          | .unbounded => c
          | .incl s => skipCursor (fun d => klt d.1 s) (c.seek s).2
          | .excl s => skipCursor (fun d => klt d.1 s || decide (d.1 = s)) (c.seek s).2) := by
  unfold RangeIt.next rangeStep skipCursor
  simp only [hc, Bool.not_false, if_true]
  cases lo <;> rfl

/-- `c1` is the cursor the first call continues with: later calls continue with their own.  Nothing is asked of the tree
or of `c1`: the two loops run in step whatever `next` yields. -/
theorem range_drain_eq (n : Nat) : ∀ (r : RangeIt K E) (c1 : Cursor K E), r.next = rangeStep r c1 →
    RangeIt.drain n r = (Cursor.drain n c1).1.takeWhile (fun e => Spec.belowHi r.hi e.1) := by
  induction n with
  | zero => intro r c1 _; rfl
  | succ n ih =>
    intro r c1 hr
    have hc := next_called c1
    rw [RangeIt.drain, hr, rangeStep, Cursor.drain]
    cases hnx : c1.next with
    | mk o c2 =>
      rw [hnx] at hc
      cases o with
      | none => rfl
      | some d =>
        simp only [List.takeWhile_cons]
        cases hb : Spec.belowHi r.hi d.1 with
        | false => simp
        | true =>
          simp only [if_true]
          rw [ih { r with c := c2 } c2 (range_next_called _ hc)]

end

variable {K E : Type} [Ord K] [TransOrd K] [LawfulEqOrd K] [DecidableEq K]

theorem range_position (t : Tree K E) (h : WF none none t) (lo hi : Spec.Bound K) :
    ∃ c1, CInv t c1 ∧ pending c1 = t.flatten.filter (fun e => Spec.aboveLo lo e.1) ∧
      RangeIt.next { c := { root := t }, lo := lo, hi := hi } =
        rangeStep { c := { root := t }, lo := lo, hi := hi } c1 := by
  have hsorted := flatten_sorted none none t h
  cases lo with
  | unbounded =>
    obtain ⟨a, b⟩ := startCursor_spec t h.shp
    refine ⟨startCursor t, a, ?_, ?_⟩
    · rw [b]; symm; rw [List.filter_eq_self]; intro e _; rfl
    · rw [range_next_first _ rfl]
      unfold rangeStep
      rw [next_fresh_eq_start t h.shp]
  | incl s =>
    obtain ⟨hc, hcur, hpos, _⟩ := seek_seekOk t h s _ rfl
    obtain ⟨a, b⟩ := skipCursor_spec t (fun d => klt d.1 s) _ hc hcur
    refine ⟨_, a, ?_, range_next_first _ rfl _ hi⟩
    rw [b, ← (hpos.filter_eq_skip1 hsorted).1]
    rfl
  | excl s =>
    obtain ⟨hc, hcur, hpos, _⟩ := seek_seekOk t h s _ rfl
    obtain ⟨a, b⟩ := skipCursor_spec t (fun d => klt d.1 s || decide (d.1 = s)) _ hc hcur
    refine ⟨_, a, ?_, range_next_first _ rfl _ hi⟩
    rw [b, ← (hpos.filter_eq_skip1 hsorted).2]
    rfl

theorem range_spec (t : Tree K E) (h : WF none none t) (lo hi : Spec.Bound K) (n : Nat)
    (hn : t.flatten.length < n) :
    RangeIt.drain n { c := { root := t }, lo := lo, hi := hi } = Spec.range t.flatten lo hi := by
  obtain ⟨c1, hc, hp, hr⟩ := range_position t h lo hi
  have hs := flatten_sorted none none t h
  have hlen : (pending c1).length < n := by
    rw [hp]; exact Nat.lt_of_le_of_lt (List.length_filter_le _ _) hn
  rw [range_drain_eq n _ c1 hr, (drain_spec t n c1 hc hlen).1, hp]
  -- `belowHi` is downward closed on an ascending list, so `takeWhile` is `filter`
  have hpw := (Spec.sorted_iff_pairwise.mp hs).filter (fun e => Spec.aboveLo lo e.1)
  rw [takeWhile_eq_filter (hpw.imp fun hab hb => belowHi_down hi _ _ hab hb), List.filter_filter]
  unfold Spec.range
  congr 1
  funext e
  exact Bool.and_comm _ _

end Jamm
