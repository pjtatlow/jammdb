/-
The two-lock model (the first half of C09; the five-lock model of `LockOrderLemmas.lean` is the finer one): writers are
serialised, nobody deadlocks.  `LockSys.guard` is `enabled` read off the thread instead of the index (`enabled_eq`);
every step proof opens with `step_of_enabled`.
-/
import Jamm.Model.Locks
import Jamm.Proofs.ListLemmas

namespace Jamm

def LockSys.guard (s : LockSys) (t : Thread) : Bool :=
  match t.phase with
  | .idle => !t.script.isEmpty
  | .wantW _ => !s.writerOpen
  | .wantR => s.admit || !s.resizeWaiting
  | .inW _ => true
  | .waitResize => !s.readersOpen
  | .inR => true

theorem LockSys.enabled_eq (s : LockSys) (i : Nat) (t : Thread) (ht : s.threads[i]? = some t) :
    s.enabled i = s.guard t := by
  unfold LockSys.enabled LockSys.guard
  rw [ht]
  rfl

theorem LockSys.enabled_of_mem (s : LockSys) (t : Thread) (ht : t ∈ s.threads)
    (hg : s.guard t = true) : ∃ i, s.enabled i = true := by
  obtain ⟨i, hi⟩ := List.mem_iff_getElem?.mp ht
  exact ⟨i, by rw [s.enabled_eq i t hi, hg]⟩

theorem LockSys.step_of_enabled (s : LockSys) (i : Nat) (he : s.enabled i = true) :
    ∃ t, s.threads[i]? = some t ∧ s.guard t = true ∧ (s.step i).threads = s.threads.set i t.next := by
  cases ht : s.threads[i]? with
  | none => simp [LockSys.enabled, ht] at he
  | some t => exact ⟨t, rfl, s.enabled_eq i t ht ▸ he, by rw [LockSys.step, ht]⟩

theorem Thread.next_holdsF (t : Thread) (h : t.next.holdsF = true) :
    t.holdsF = true ∨ ∃ r, t.phase = .wantW r := by
  obtain ⟨ph, sc⟩ := t
  cases ph with
  | idle =>
    cases sc with
    | nil => simp [Thread.next, Thread.holdsF] at h
    | cons k rest => cases k <;> simp [Thread.next, Thread.holdsF] at h
  | wantW r => exact Or.inr ⟨r, rfl⟩
  | wantR => simp [Thread.next, Thread.holdsF] at h
  | inW r => left; simp [Thread.holdsF]
  | waitResize => left; simp [Thread.holdsF]
  | inR => simp [Thread.next, Thread.holdsF] at h

theorem Thread.next_work_lt (t : Thread) (h : t.phase = .idle → t.script ≠ []) :
    t.next.work < t.work := by
  obtain ⟨ph, sc⟩ := t
  cases ph with
  | idle =>
    cases sc with
    | nil => simp at h
    | cons k rest =>
      cases k with
      | read => simp [Thread.next, Thread.work]; omega
      | write r => cases r <;> simp [Thread.next, Thread.work] <;> omega
  | wantW r => cases r <;> simp [Thread.next, Thread.work]
  | wantR => simp [Thread.next, Thread.work]
  | inW r => cases r <;> simp [Thread.next, Thread.work]
  | waitResize => simp [Thread.next, Thread.work]
  | inR => simp [Thread.next, Thread.work]

theorem Thread.work_eq_zero (t : Thread) : t.work = 0 ↔ t.finished = true := by
  obtain ⟨ph, sc⟩ := t
  cases ph with
  | idle => cases sc <;> simp [Thread.work, Thread.finished]
  | wantW r => cases r <;> simp [Thread.work, Thread.finished]
  | wantR => simp [Thread.work, Thread.finished]
  | inW r => cases r <;> simp [Thread.work, Thread.finished]
  | waitResize => simp [Thread.work, Thread.finished]
  | inR => simp [Thread.work, Thread.finished]

theorem LockSys.run_induction {P : LockSys → Prop} (hstep : ∀ s i, P s → s.enabled i = true → P (s.step i)) :
    ∀ (sched : List Nat) (s : LockSys), P s → P (s.run sched)
  | [], _, h => h
  | i :: rest, s, h => by
    unfold LockSys.run
    split
    · next he => exact run_induction hstep rest _ (hstep s i h he)
    · exact run_induction hstep rest s h

theorem LockSys.oneWriter_initial (scripts : List (List TxKind)) (admit : Bool) :
    (LockSys.initial scripts admit).oneWriter = true := by
  have : (List.map (fun sc => ({ phase := .idle, script := sc } : Thread)) scripts).filter
      Thread.holdsF = [] := by
    rw [List.filter_eq_nil_iff]
    intro a ha
    obtain ⟨sc, _, rfl⟩ := List.mem_map.mp ha
    simp [Thread.holdsF]
  simp [LockSys.initial, LockSys.oneWriter, this]

theorem LockSys.oneWriter_step (s : LockSys) (i : Nat) (h : s.oneWriter = true) (he : s.enabled i = true) :
    (s.step i).oneWriter = true := by
  obtain ⟨t, ht, hg, hstep⟩ := s.step_of_enabled i he
  simp only [LockSys.oneWriter, decide_eq_true_eq, hstep] at h ⊢
  by_cases hw : ∃ r, t.phase = .wantW r
  · -- the thread takes F: its guard says nobody held it
    obtain ⟨r, hr⟩ := hw
    rw [LockSys.guard, hr] at hg
    exact filter_set_length_le_one _ _ _ _ _ ht (by simpa [LockSys.writerOpen] using hg)
  · exact Nat.le_trans (filter_set_length_le Thread.holdsF _ i t t.next ht fun hn =>
      (t.next_holdsF hn).resolve_right hw) h

theorem LockSys.oneWriter_run (sched : List Nat) (s : LockSys) (h : s.oneWriter = true) :
    (s.run sched).oneWriter = true :=
  LockSys.run_induction (P := fun s => s.oneWriter = true) oneWriter_step sched s h

theorem LockSys.work_decreases (s : LockSys) (i : Nat) (he : s.enabled i = true) : (s.step i).work < s.work := by
  obtain ⟨t, ht, hg, hstep⟩ := s.step_of_enabled i he
  unfold LockSys.work; rw [hstep]
  refine sum_map_set_lt Thread.work s.threads i t t.next ht (t.next_work_lt fun hp hs => ?_)
  -- an idle thread is enabled only while its script is not empty
  simp [LockSys.guard, hp, hs] at hg

theorem LockSys.finished_iff_no_work (s : LockSys) : s.allFinished = true ↔ s.work = 0 := by
  unfold LockSys.allFinished LockSys.work
  rw [List.sum_eq_zero_iff_forall_eq_nat, List.forall_mem_map, List.all_eq_true]
  exact forall₂_congr fun t _ => (t.work_eq_zero).symm

/-- No deadlock, under both rwlock policies.  If nobody can move: nobody reads (a reader can always go on), so
nobody waits to remap, nobody holds the file lock (a writer can always go on), so nobody waits to begin: all
threads are idle with nothing left -/
theorem LockSys.deadlock_free (s : LockSys) (h : s.allFinished = false) : ∃ i, s.enabled i = true := by
  refine Classical.byContradiction fun hne => ?_
  have hno : ∀ t ∈ s.threads, s.guard t = false := fun t ht =>
    Bool.eq_false_iff.2 fun hg => hne (s.enabled_of_mem t ht hg)
  have hR : s.readersOpen = false := List.any_eq_false.2 fun t ht hp => by
    have := hno t ht
    simp only [Thread.holdsMRead, beq_iff_eq] at hp
    simp [LockSys.guard, hp] at this
  have hQ : s.resizeWaiting = false := List.any_eq_false.2 fun t ht hp => by
    have := hno t ht
    simp only [beq_iff_eq] at hp
    simp [LockSys.guard, hp, hR] at this
  have hW : s.writerOpen = false := List.any_eq_false.2 fun ⟨ph, sc⟩ ht hp => by
    have hg := hno _ ht
    have hq := List.any_eq_false.1 hQ _ ht
    -- `inW`: its guard is `true`; `waitResize`: excluded by `hq`; the others do not hold F
    cases ph <;> simp [LockSys.guard, Thread.holdsF] at hp hg hq
  obtain ⟨⟨ph, sc⟩, hu, hunf⟩ := List.all_eq_false.mp h
  have hg := hno _ hu
  cases ph <;> simp [LockSys.guard, Thread.finished, hW, hQ, hR] at hg hunf
  -- only `idle` is left: disabled means the script is empty, unfinished that it is not
  exact hunf hg

end Jamm
