/-
The cursor's stack machine, without key order.  `remaining s` / `after s` are the entries an iteration from stack `s`
has yet to yield (including / excluding the one under the cursor), `todo s` the nodes it has yet to enter (the fuel of
`skipEmpty`); `next` is `head?` / `tail` of `pending`.  Stacks are classified by `OnLeaf` (top frame a leaf showing an
entry, or an empty leaf), `Shaped` (top node any, frames below it non-leaf branches: `RestOk`) and `FinalB` (ran off the
end on the root branch); a whole cursor by `CInv t c`, under which `next_spec` / `drain_spec` are the interface.
-/
import Jamm.Model.Cursor
import Jamm.Proofs.ForestLemmas

namespace Jamm
variable {K E : Type}

mutual
/-- `Shape` (which the C08 statements use) as a recursive predicate, for the proofs -/
def Shp : Tree K E → Prop
  | .leaf _ _ => True
  | .branch _ kids => kids.length ≠ 0 ∧ ShpF kids
def ShpF : Forest K E → Prop
  | .nil => True
  | .cons _ t rest => Shp t ∧ ShpF rest
end

theorem ShpF.child (f : Forest K E) (hf : ShpF f) (i : Nat) (k : K) (t : Tree K E)
    (h : f.get? i = some (k, t)) : Shp t :=
  Forest.get?_ind (motive := fun f _ _ t => ShpF f → Shp t) (fun _ _ _ h => h.1)
    (fun _ _ _ _ _ _ ih h => ih h.2) f i k t h hf

theorem Shp.leaf {p : Nat} {es : List (K × E)} : Shp (.leaf p es : Tree K E) := trivial

theorem Shp.child {p : Nat} {kids : Forest K E} (h : Shp (.branch p kids)) {i : Nat} {k : K} {t : Tree K E}
    (hget : kids.get? i = some (k, t)) : Shp t :=
  ShpF.child kids h.2 i k t hget

mutual
/-- every branch has at least one child (true of every tree a cursor can meet) -/
inductive Shape : Tree K E → Prop where
  | leaf (p : Nat) (es : List (K × E)) : Shape (.leaf p es)
  | branch (p : Nat) (k : K) (t : Tree K E) (rest : Forest K E) :
      Shape t → ShapeF rest → Shape (.branch p (.cons k t rest))
inductive ShapeF : Forest K E → Prop where
  | nil : ShapeF .nil
  | cons (k : K) (t : Tree K E) (rest : Forest K E) : Shape t → ShapeF rest → ShapeF (.cons k t rest)
end

theorem Shape.shp {t : Tree K E} (h : Shape t) : Shp t :=
  Shape.rec (motive_1 := fun t _ => Shp t) (motive_2 := fun f _ => ShpF f)
    (fun _ _ => Shp.leaf) (fun _ _ _ _ _ _ h1 h2 => ⟨Nat.succ_ne_zero _, h1, h2⟩)
    trivial (fun _ _ _ _ _ h1 h2 => ⟨h1, h2⟩) h

/-- contents (`from`) / node count (`nodesFrom`) of `t` from position `j` on: a leaf's entries from `j`, a branch's
children from `j` -/
def Tree.from : Tree K E → Nat → List (K × E)
  | .leaf _ es, j => es.drop j
  | .branch _ kids, j => Tree.flattenF (kids.drop j)

def Tree.nodesFrom : Tree K E → Nat → Nat
  | .leaf _ _, _ => 0
  | .branch _ kids, j => Tree.nodesF (kids.drop j)

theorem Tree.from_zero (t : Tree K E) : t.from 0 = t.flatten := by
  cases t <;> simp [Tree.from]

theorem Tree.nodesFrom_zero (t : Tree K E) : t.nodesFrom 0 + 1 = t.nodes := by
  cases t <;> simp [Tree.nodesFrom, Tree.nodes]

def after : Stack K E → List (K × E)
  | [] => []
  | f :: rest => f.node.from (f.idx + 1) ++ after rest

def todo : Stack K E → Nat
  | [] => 0
  | f :: rest => f.node.nodesFrom (f.idx + 1) + todo rest

def remaining (s : Stack K E) : List (K × E) := (current s).toList ++ after s

section
variable (p : Nat) (es : List (K × E)) (kids : Forest K E) (i : Nat) (s : Stack K E)

@[simp] theorem after_nil : after ([] : Stack K E) = [] := rfl
@[simp] theorem todo_nil : todo ([] : Stack K E) = 0 := rfl

@[simp] theorem after_leaf_cons : after (⟨.leaf p es, i⟩ :: s) = es.drop (i + 1) ++ after s := rfl
@[simp] theorem todo_leaf_cons : todo (⟨.leaf p es, i⟩ :: s) = todo s := Nat.zero_add _

@[simp] theorem after_branch_cons :
    after (⟨.branch p kids, i⟩ :: s) = Tree.flattenF (kids.drop (i + 1)) ++ after s := rfl

@[simp] theorem todo_branch_cons :
    todo (⟨.branch p kids, i⟩ :: s) = Tree.nodesF (kids.drop (i + 1)) + todo s := rfl

theorem remaining_leaf : remaining (⟨.leaf p es, i⟩ :: s) = es.drop i ++ after s := by
  simp only [remaining, current, after_leaf_cons]
  rw [← List.append_assoc, ← List.drop_eq_getElem?_toList_append]

theorem descend_leaf : descend (.leaf p es) i s = ⟨.leaf p es, i⟩ :: s := rfl

end

def BranchOk (f : Frame K E) : Prop := Shp f.node ∧ f.node.isLeaf = false
def RestOk (s : Stack K E) : Prop := ∀ f ∈ s, BranchOk f

def Shaped : Stack K E → Prop
  | [] => False
  | f :: rest => Shp f.node ∧ RestOk rest

def OnLeaf : Stack K E → Prop
  | ⟨.leaf _ es, i⟩ :: rest => (es = [] ∨ i < es.length) ∧ RestOk rest
  | _ => False

/-- the stack `advance` leaves behind when it reports the end -/
def Final (s : Stack K E) : Prop := ∃ f, s = [f] ∧ f.node.len ≤ f.idx + 1 ∧ Shp f.node
/-- the "moved past the last element" of `cursor.rs:108`: the single frame is a branch, `current` is `none` -/
def FinalB (s : Stack K E) : Prop := Final s ∧ RestOk s

theorem advance_last (f : Frame K E) (h : f.node.len ≤ f.idx + 1) : advance [f] = (false, [f]) := by
  simp [advance, h]

theorem advance_pop (f g : Frame K E) (r : Stack K E) (h : f.node.len ≤ f.idx + 1) :
    advance (f :: g :: r) = advance (g :: r) := by
  rw [advance]; simp [h]

theorem advance_step (f : Frame K E) (rest : Stack K E) (h : ¬ f.node.len ≤ f.idx + 1) :
    advance (f :: rest) = (true, descend f.node (f.idx + 1) rest) := by
  simp [advance, h]

theorem after_cons_of_len_le (f : Frame K E) (s : Stack K E) (h : f.node.len ≤ f.idx + 1) :
    after (f :: s) = after s := by
  obtain ⟨⟨p, es⟩ | ⟨p, kids⟩, idx⟩ := f
  · rw [after_leaf_cons, List.drop_eq_nil_of_le h, List.nil_append]
  · rw [after_branch_cons, Forest.drop_of_length_le kids _ h, flattenF_nil, List.nil_append]

theorem todo_cons_of_len_le (f : Frame K E) (s : Stack K E) (h : f.node.len ≤ f.idx + 1) :
    todo (f :: s) = todo s := by
  obtain ⟨⟨p, es⟩ | ⟨p, kids⟩, idx⟩ := f
  · exact todo_leaf_cons ..
  · rw [todo_branch_cons, Forest.drop_of_length_le kids _ h]
    exact Nat.zero_add _

theorem RestOk.nil : RestOk ([] : Stack K E) := fun _ h => nomatch h

theorem RestOk.head {f : Frame K E} {s : Stack K E} (h : RestOk (f :: s)) : BranchOk f := h f List.mem_cons_self

theorem RestOk.tail {f : Frame K E} {s : Stack K E} (h : RestOk (f :: s)) : RestOk s :=
  fun g hg => h g (List.mem_cons_of_mem _ hg)

theorem RestOk.push {p : Nat} {kids : Forest K E} (hs : Shp (.branch p kids)) (i : Nat) {acc : Stack K E}
    (hacc : RestOk acc) : RestOk (⟨.branch p kids, i⟩ :: acc) := by
  intro g hg
  rcases List.mem_cons.mp hg with rfl | hg
  · exact ⟨hs, rfl⟩
  · exact hacc g hg

theorem RestOk.shaped {f : Frame K E} {s : Stack K E} (h : RestOk (f :: s)) : Shaped (f :: s) :=
  ⟨h.head.1, h.tail⟩

theorem OnLeaf.leaf {p : Nat} {es : List (K × E)} {i : Nat} {rest : Stack K E} (h : es = [] ∨ i < es.length)
    (hr : RestOk rest) : OnLeaf (⟨.leaf p es, i⟩ :: rest) :=
  ⟨h, hr⟩

theorem OnLeaf.cases : {s : Stack K E} → OnLeaf s →
    ∃ p es i rest, s = ⟨.leaf p es, i⟩ :: rest ∧ (es = [] ∨ i < es.length) ∧ RestOk rest
  | ⟨.leaf p es, i⟩ :: rest, h => ⟨p, es, i, rest, rfl, h.1, h.2⟩

theorem OnLeaf.shaped {s : Stack K E} (h : OnLeaf s) : Shaped s := by
  obtain ⟨p, es, i, rest, rfl, _, hr⟩ := h.cases
  exact ⟨Shp.leaf, hr⟩

theorem Final.shaped {s : Stack K E} (h : Final s) : Shaped s := by
  obtain ⟨f, rfl, _, hs⟩ := h
  exact ⟨hs, RestOk.nil⟩

theorem Final.after_eq_nil {s : Stack K E} (h : Final s) : after s = [] := by
  obtain ⟨f, rfl, h1, _⟩ := h
  rw [after_cons_of_len_le f [] h1, after_nil]

theorem Final.advance {s : Stack K E} (h : Final s) : advance s = (false, s) := by
  obtain ⟨f, rfl, h1, _⟩ := h
  exact advance_last f h1

theorem FinalB.current_eq_none {s : Stack K E} (h : FinalB s) : current s = none := by
  obtain ⟨⟨f, rfl, _⟩, hr⟩ := h
  have hl := hr.head.2
  obtain ⟨node, idx⟩ := f
  cases node with
  | leaf p es => simp [Tree.isLeaf] at hl
  | branch p kids => rfl

theorem FinalB.remaining_eq_nil {s : Stack K E} (h : FinalB s) : remaining s = [] := by
  rw [remaining, h.current_eq_none, h.1.after_eq_nil]; rfl

theorem descendF_eq (kids : Forest K E) (i : Nat) (acc : Stack K E) :
    descendF kids i acc = match kids.get? i with
      | some (_, t) => descend t 0 acc
      | none => acc :=
  Forest.eq_of_get? (F := fun f i => descendF f i acc) (fun _ => rfl) (fun _ _ _ => rfl) (fun _ _ _ _ => rfl) kids i

/-- `j = 0` at the start of an iteration, `j < t.len` when `advance` steps the frame `(t, j - 1)`.  Below a branch the
descent enters at least the leaf it lands on: that pays for one unit of `skipEmpty`'s fuel per empty leaf. -/
theorem descend_at (t : Tree K E) : Shp t → ∀ (j : Nat), j = 0 ∨ j < t.len → ∀ (acc : Stack K E), RestOk acc →
    OnLeaf (descend t j acc) ∧ remaining (descend t j acc) = t.from j ++ after acc ∧
      todo (descend t j acc) ≤ t.nodesFrom j + todo acc ∧
      (t.isLeaf = false → todo (descend t j acc) + 1 ≤ t.nodesFrom j + todo acc) := by
  induction t using Tree.ind_toList with
  | leaf p es =>
    intro _ j hj acc hacc
    rw [descend_leaf, remaining_leaf, todo_leaf_cons]
    refine ⟨OnLeaf.leaf (hj.elim (fun h => ?_) .inr) hacc, rfl, Nat.le_add_left _ _, fun h => nomatch h⟩
    subst h
    cases es <;> simp
  | branch p kids ih =>
    intro hs j hj acc hacc
    have hlt : j < kids.length := hj.elim (fun h => h ▸ Nat.pos_of_ne_zero hs.1) id
    obtain ⟨k, t, hget⟩ := kids.get?_of_lt j hlt
    obtain ⟨h1, h2, h3, _⟩ := ih _ (kids.mem_toList_of_get? _ _ _ hget) (hs.child hget) 0 (.inl rfl) _
      (RestOk.push hs j hacc)
    dsimp only at h3
    have hd := kids.drop_of_get? _ _ _ hget
    have hn := t.nodesFrom_zero
    rw [t.from_zero, after_branch_cons] at h2
    rw [todo_branch_cons] at h3
    simp only [descend, descendF_eq, hget, Tree.from, Tree.nodesFrom, hd, flattenF_cons, Tree.nodesF, List.append_assoc]
    exact ⟨h1, h2, by omega, fun _ => by omega⟩

theorem advance_spec (s : Stack K E) (h : Shaped s) :
    ((advance s).1 = true → OnLeaf (advance s).2 ∧ remaining (advance s).2 = after s ∧
        todo (advance s).2 ≤ todo s ∧ (RestOk s → todo (advance s).2 + 1 ≤ todo s)) ∧
    ((advance s).1 = false → after s = [] ∧ Final (advance s).2 ∧ todo (advance s).2 ≤ todo s ∧
        (RestOk s → FinalB (advance s).2)) := by
  -- two callers: `next` (top frame a leaf: stepping inside a leaf enters no node, so only `≤`) and `skipEmpty` after
  -- the empty leaf is popped (`RestOk s`: the step enters at least one node, so the fuel goes down)
  induction s with
  | nil => exact h.elim
  | cons f rest ih =>
    by_cases hlen : f.node.len ≤ f.idx + 1
    · cases rest with
      | nil =>
        rw [advance_last f hlen]
        have hfin : Final [f] := ⟨f, rfl, hlen, h.1⟩
        exact ⟨fun h => (nomatch h), fun _ => ⟨hfin.after_eq_nil, hfin, Nat.le_refl _, fun hr => ⟨hfin, hr⟩⟩⟩
      | cons g r =>
        rw [advance_pop f g r hlen, after_cons_of_len_le f _ hlen, todo_cons_of_len_le f _ hlen]
        have ih' := ih h.2.shaped
        refine ⟨fun hx => ?_, fun hx => ?_⟩
        · obtain ⟨a, b, c, d⟩ := ih'.1 hx
          exact ⟨a, b, c, fun _ => d h.2⟩
        · obtain ⟨a, b, c, d⟩ := ih'.2 hx
          exact ⟨a, b, c, fun _ => d h.2⟩
    · rw [advance_step f rest hlen]
      obtain ⟨a, b, c, d⟩ := descend_at f.node h.1 (f.idx + 1) (.inr (by omega)) rest h.2
      exact ⟨fun _ => ⟨a, b, c, fun hr => d hr.head.2⟩, fun h => nomatch h⟩

theorem skipEmpty_stay (fuel : Nat) (f : Frame K E) (rest : Stack K E)
    (h : rest = [] ∨ (f.node.isLeaf && f.node.len == 0) = false) :
    skipEmpty (fuel + 1) (f :: rest) = (true, f :: rest) := by
  cases rest with
  | nil => rfl
  | cons g r =>
    rcases h with h | h
    · exact nomatch h
    · simp [skipEmpty, h]

theorem skipEmpty_go (fuel p i : Nat) (g : Frame K E) (r : Stack K E) :
    skipEmpty (fuel + 1) (⟨.leaf p ([] : List (K × E)), i⟩ :: g :: r)
      = if (advance (g :: r)).1 then skipEmpty fuel (advance (g :: r)).2 else (false, (advance (g :: r)).2) := by
  rw [skipEmpty]
  simp only [Tree.isLeaf, Tree.len, List.length_nil, beq_self_eq_true, Bool.and_self, if_true]
  rw [advance_pop _ g r (by simp [Tree.len])]

theorem current_eq_head? {s : Stack K E} (h : current s = none → after s = []) :
    current s = (remaining s).head? := by
  unfold remaining
  cases hc : current s with
  | none => rw [h hc]; rfl
  | some e => rfl

theorem after_eq_tail {s : Stack K E} (h : current s = (remaining s).head?) : after s = (remaining s).tail := by
  unfold remaining at h ⊢
  cases hc : current s with
  | some e => rfl
  | none =>
    rw [hc] at h
    cases hb : after s with
    | nil => rfl
    | cons b l => rw [hb] at h; simp at h

/-- A stack given to it is `FinalB` when a `seek` ran off the end: that cursor has `nextCalled = false`, and `next`
runs `skipEmpty` on its stack. -/
theorem skipEmpty_spec (fuel : Nat) : ∀ (s : Stack K E), OnLeaf s ∨ FinalB s → todo s < fuel →
    (OnLeaf (skipEmpty fuel s).2 ∨ FinalB (skipEmpty fuel s).2) ∧ todo (skipEmpty fuel s).2 ≤ todo s ∧
    remaining (skipEmpty fuel s).2 = remaining s ∧
    current (skipEmpty fuel s).2 = (remaining s).head? ∧
    ((skipEmpty fuel s).1 = false → remaining s = []) := by
  -- each round pops one empty leaf, and `advance_spec`'s `RestOk` clause makes `todo` drop by one, so `todo s < fuel`
  -- never runs out; an empty leaf contributes nothing to `remaining`, which keeps the other conjuncts
  induction fuel with
  | zero => intro s _ h; omega
  | succ fuel ih =>
    intro s hs hf
    rcases hs with hs | hs
    · obtain ⟨p, es, i, rest, rfl, hleaf, hr⟩ := hs.cases
      by_cases hstay : rest = [] ∨ es ≠ []
      · rw [skipEmpty_stay fuel _ rest (by simpa [Tree.isLeaf, Tree.len] using hstay)]
        refine ⟨Or.inl hs, Nat.le_refl _, rfl, current_eq_head? fun hc => ?_, fun h => nomatch h⟩
        -- an exhausted position in a leaf that stays: the leaf is empty and is the only frame
        rcases hleaf with h1 | h1
        · subst h1
          rcases hstay with rfl | h
          · rfl
          · exact absurd rfl h
        · simp [current, List.getElem?_eq_getElem h1] at hc
      · obtain ⟨hne, rfl⟩ : rest ≠ [] ∧ es = [] := by simpa using hstay
        obtain ⟨g, r, rfl⟩ := List.exists_cons_of_ne_nil hne
        rw [skipEmpty_go, remaining_leaf, List.drop_nil, List.nil_append, todo_leaf_cons]
        rw [todo_leaf_cons] at hf
        have hA := advance_spec (g :: r) hr.shaped
        cases hx : (advance (g :: r)).1 with
        | true =>
          obtain ⟨a, b, _, d⟩ := hA.1 hx
          have hlt := d hr
          obtain ⟨i1, i2, i3, i4, i5⟩ := ih _ (Or.inl a) (by omega)
          simp only [if_true]
          rw [← b]
          exact ⟨i1, by omega, i3, i4, i5⟩
        | false =>
          obtain ⟨a, _, c, d⟩ := hA.2 hx
          have hfin := d hr
          simp only [Bool.false_eq_true, if_false]
          rw [a]
          exact ⟨Or.inr hfin, c, hfin.remaining_eq_nil, hfin.current_eq_none, fun _ => rfl⟩
    · obtain ⟨f, rfl, _⟩ := hs.1
      rw [skipEmpty_stay fuel f [] (Or.inl rfl), hs.remaining_eq_nil]
      exact ⟨Or.inr hs, Nat.le_refl _, rfl, hs.current_eq_none, fun h => nomatch h⟩

/-- the second half of `Cursor.next`, once the start stack is chosen -/
def finish (c : Cursor K E) (s : Stack K E) : Option (K × E) × Cursor K E :=
  let r := skipEmpty (c.root.nodes + 1) s
  if r.1 then (current r.2, { c with stack := r.2, nextCalled := true })
  else (none, { c with stack := r.2, nextCalled := true })

theorem next_eq_fresh (c : Cursor K E) (h : c.stack = []) : c.next = finish c (descend c.root 0 []) := by
  unfold Cursor.next finish; simp [h]

theorem next_eq_first (c : Cursor K E) (h : c.stack ≠ []) (hn : c.nextCalled = false) :
    c.next = finish c c.stack := by
  unfold Cursor.next finish; simp [h, hn]

theorem next_eq_adv (c : Cursor K E) (h : c.stack ≠ []) (hn : c.nextCalled = true)
    (ha : (advance c.stack).1 = true) : c.next = finish c (advance c.stack).2 := by
  unfold Cursor.next finish; simp [h, hn, ha]

theorem next_eq_end (c : Cursor K E) (h : c.stack ≠ []) (hn : c.nextCalled = true)
    (ha : (advance c.stack).1 = false) : c.next = (none, { c with stack := (advance c.stack).2 }) := by
  unfold Cursor.next; simp [h, hn, ha]

/-- Before the first `next` the stack shows the entry to yield (`OnLeaf`) or has ended on the root branch (`FinalB`);
afterwards it shows the entry just yielded, possibly exhausted, so only `Shaped`. -/
structure CInv (t : Tree K E) (c : Cursor K E) : Prop where
  root : c.root = t
  fuel : todo c.stack ≤ t.nodes
  shaped : Shaped c.stack
  first : c.nextCalled = false → OnLeaf c.stack ∨ FinalB c.stack

/-- once `next` was called the entry under the cursor has been yielded already -/
def pending (c : Cursor K E) : List (K × E) :=
  if c.nextCalled = true then after c.stack else remaining c.stack

theorem pending_of_called {c : Cursor K E} (h : c.nextCalled = true) : pending c = after c.stack :=
  if_pos h

theorem pending_of_not_called {c : Cursor K E} (h : c.nextCalled = false) : pending c = remaining c.stack :=
  if_neg (by rw [h]; exact Bool.false_ne_true)

theorem shaped_of_onLeaf_or_finalB {s : Stack K E} (h : OnLeaf s ∨ FinalB s) : Shaped s :=
  h.elim OnLeaf.shaped fun h => h.1.shaped

theorem finish_eq (c : Cursor K E) (s : Stack K E) :
    finish c s = (if (skipEmpty (c.root.nodes + 1) s).1 then current (skipEmpty (c.root.nodes + 1) s).2 else none,
      { c with stack := (skipEmpty (c.root.nodes + 1) s).2, nextCalled := true }) := by
  unfold finish
  cases hx : (skipEmpty (c.root.nodes + 1) s).1 <;> simp [hx]

theorem finish_called (c : Cursor K E) (s : Stack K E) : (finish c s).2.nextCalled = true := by
  rw [finish_eq]

/-- Of every cursor: the one path of `next` that does not set the flag (`next_eq_end`) is taken only when it is set. -/
theorem next_called (c : Cursor K E) : c.next.2.nextCalled = true := by
  by_cases hs : c.stack = []
  · rw [next_eq_fresh c hs]
    exact finish_called ..
  · cases hn : c.nextCalled with
    | false =>
      rw [next_eq_first c hs hn]
      exact finish_called ..
    | true =>
      cases ha : (advance c.stack).1 with
      | true =>
        rw [next_eq_adv c hs hn ha]
        exact finish_called ..
      | false =>
        rw [next_eq_end c hs hn ha]
        exact hn

theorem finish_spec (t : Tree K E) (c : Cursor K E) (s : Stack K E) (hroot : c.root = t)
    (hs : OnLeaf s ∨ FinalB s) (ht : todo s ≤ t.nodes) :
    (finish c s).1 = (remaining s).head? ∧ CInv t (finish c s).2 ∧
      pending (finish c s).2 = (remaining s).tail := by
  subst hroot
  obtain ⟨a, b, hrem, hcur, hend⟩ := skipEmpty_spec (c.root.nodes + 1) s hs (by omega)
  rw [finish_eq]
  refine ⟨?_, ⟨rfl, Nat.le_trans b ht, shaped_of_onLeaf_or_finalB a, fun h => nomatch h⟩, ?_⟩
  · cases hx : (skipEmpty (c.root.nodes + 1) s).1 with
    | true => exact hcur
    | false => rw [hend hx]; rfl
  · rw [pending_of_called rfl]
    rw [← hrem] at hcur ⊢
    exact after_eq_tail hcur

theorem CInv.stack_ne {t : Tree K E} {c : Cursor K E} (h : CInv t c) : c.stack ≠ [] := by
  intro e
  have := h.shaped
  rw [e] at this
  exact this

theorem next_spec (t : Tree K E) (c : Cursor K E) (h : CInv t c) :
    c.next.1 = (pending c).head? ∧ CInv t c.next.2 ∧ pending c.next.2 = (pending c).tail := by
  have hne := h.stack_ne
  cases hn : c.nextCalled with
  | false =>
    rw [next_eq_first c hne hn, pending_of_not_called hn]
    exact finish_spec t c c.stack h.root (h.first hn) h.fuel
  | true =>
    have hA := advance_spec c.stack h.shaped
    rw [pending_of_called hn]
    cases ha : (advance c.stack).1 with
    | true =>
      obtain ⟨a, b, hle, _⟩ := hA.1 ha
      rw [next_eq_adv c hne hn ha, ← b]
      exact finish_spec t c _ h.root (Or.inl a) (Nat.le_trans hle h.fuel)
    | false =>
      obtain ⟨a, b, hle, _⟩ := hA.2 ha
      rw [next_eq_end c hne hn ha, a]
      refine ⟨rfl, ⟨h.root, Nat.le_trans hle h.fuel, b.shaped, fun h' => ?_⟩, ?_⟩
      · exact absurd (h'.symm.trans hn) Bool.false_ne_true
      · exact (pending_of_called (c := { c with stack := (advance c.stack).2 }) hn).trans b.after_eq_nil

/-- `next_spec.1` in rewriting form, for goals that `match` on `c.next` -/
theorem next_eq_head_pending (t : Tree K E) (c : Cursor K E) (h : CInv t c) :
    c.next = ((pending c).head?, c.next.2) :=
  Prod.ext (next_spec t c h).1 rfl

/-- the cursor `seek` builds from a landing stack -/
theorem skipEmpty_cursor_spec (t : Tree K E) (s : Stack K E) (hs : OnLeaf s) (ht : todo s ≤ t.nodes) :
    CInv t { root := t, stack := (skipEmpty (t.nodes + 1) s).2, nextCalled := false } ∧
    pending { root := t, stack := (skipEmpty (t.nodes + 1) s).2, nextCalled := false } = remaining s ∧
    current (skipEmpty (t.nodes + 1) s).2 = (remaining s).head? := by
  obtain ⟨a, b, hrem, hcur, _⟩ := skipEmpty_spec (t.nodes + 1) s (Or.inl hs) (by omega)
  exact ⟨⟨rfl, Nat.le_trans b ht, shaped_of_onLeaf_or_finalB a, fun _ => a⟩,
    (pending_of_not_called rfl).trans hrem, hcur⟩

theorem drain_spec (t : Tree K E) (n : Nat) : ∀ (c : Cursor K E), CInv t c → (pending c).length < n →
    (Cursor.drain n c).1 = pending c ∧ CInv t (Cursor.drain n c).2 ∧ pending (Cursor.drain n c).2 = [] := by
  induction n with
  | zero => intro c _ h; omega
  | succ n ih =>
    intro c hc hlen
    obtain ⟨_, h2, h4⟩ := next_spec t c hc
    rw [Cursor.drain, next_eq_head_pending t c hc]
    cases hp : pending c with
    | nil =>
      rw [hp] at h4
      exact ⟨rfl, h2, h4⟩
    | cons e0 l =>
      rw [hp] at h4 hlen
      obtain ⟨a, b, d⟩ := ih c.next.2 h2 (by rw [h4]; simpa using hlen)
      exact ⟨by simp only [List.head?_cons]; rw [a, h4]; rfl, b, d⟩

/-- the fresh cursor behaves like the cursor positioned on the first leaf -/
def startCursor (t : Tree K E) : Cursor K E :=
  { root := t, stack := descend t 0 [], nextCalled := false }

theorem startCursor_spec (t : Tree K E) (h : Shp t) :
    CInv t (startCursor t) ∧ pending (startCursor t) = t.flatten := by
  obtain ⟨a, b, c, _⟩ := descend_at t h 0 (.inl rfl) [] RestOk.nil
  rw [todo_nil] at c
  rw [after_nil, List.append_nil, t.from_zero] at b
  have := t.nodesFrom_zero
  exact ⟨⟨rfl, by simp only [startCursor]; omega, a.shaped, fun _ => Or.inl a⟩, (pending_of_not_called rfl).trans b⟩

theorem next_fresh_eq_start (t : Tree K E) (h : Shp t) :
    Cursor.next { root := t } = (startCursor t).next := by
  have hne := (startCursor_spec t h).1.stack_ne
  rw [next_eq_fresh _ rfl, next_eq_first _ hne rfl]
  rfl

theorem drain_fresh_eq (t : Tree K E) (h : Shp t) (n : Nat) :
    Cursor.drain n { root := t } = if n = 0 then ([], { root := t }) else Cursor.drain n (startCursor t) := by
  cases n with
  | zero => rfl
  | succ n => simp only [Nat.add_one_ne_zero, if_false]; rw [Cursor.drain, Cursor.drain, next_fresh_eq_start t h]

theorem drain_fresh_spec (t : Tree K E) (h : Shp t) (n : Nat) (hn : t.flatten.length < n) :
    (Cursor.drain n { root := t }).1 = t.flatten ∧ CInv t (Cursor.drain n { root := t }).2 ∧
      pending (Cursor.drain n { root := t }).2 = [] := by
  obtain ⟨hc, hp⟩ := startCursor_spec t h
  obtain ⟨h1, h2, h4⟩ := drain_spec t n _ hc (by rw [hp]; exact hn)
  rw [drain_fresh_eq t h, if_neg (by omega)]
  exact ⟨by rw [h1, hp], h2, h4⟩

theorem drain_fresh (t : Tree K E) (h : Shp t) (n : Nat) (hn : t.flatten.length < n) :
    (Cursor.drain n { root := t }).1 = t.flatten :=
  (drain_fresh_spec t h n hn).1

theorem next_of_pending_nil (t : Tree K E) (c : Cursor K E) (h : CInv t c) (hp : pending c = []) :
    c.next.1 = none ∧ CInv t c.next.2 ∧ pending c.next.2 = [] := by
  obtain ⟨h1, h2, h4⟩ := next_spec t c h
  rw [hp] at h1 h4
  exact ⟨h1, h2, h4⟩

end Jamm
