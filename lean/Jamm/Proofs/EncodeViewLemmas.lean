/-
Layer S: a whole database (every bucket at every nesting depth) written to pages reads back as the same database.

As for one tree (`Proofs/EncodeTreeLemmas.lean`), the writer proved about is the copy-on-write one (`writeFreshView`,
`SharedV`); that its result stores the whole view (`StoredV`; `writeFreshView_stored`) and that no byte outside the fresh
runs changes (`writeFreshView_writes`) are the two premises of the byte-level commit theorems.  Every fact about views
is an induction by `BucketView.ind`.
-/
import Jamm.Model.EncodeView
import Jamm.Proofs.EncodeTreeLemmas

namespace Jamm

theorem BucketView.weight_eq (v : BucketView) :
    v.weight = v.tree.nodes + 1 + (v.subs.map (fun s => s.2.weight)).sum := by
  rw [BucketView.weight]

theorem BucketView.allRuns_eq (ov : Nat → Nat) (v : BucketView) :
    v.allRuns ov = nodeRunsT ov v.tree ++ v.subs.flatMap (fun s => s.2.allRuns ov) := by
  rw [BucketView.allRuns]

theorem BucketView.sizeOf_sub (v : BucketView) (x : Bytes × BucketView) (hx : x ∈ v.subs) :
    sizeOf x.2 < sizeOf v := by
  have h1 : sizeOf x < sizeOf v.subs := List.sizeOf_lt_of_mem hx
  have h2 : sizeOf x.snd < sizeOf x := by
    obtain ⟨k, w⟩ := x
    simp only [Prod.mk.sizeOf_spec]
    omega
  have h3 : sizeOf v.subs < sizeOf v := by
    obtain ⟨t, n, ss⟩ := v
    simp only [BucketView.mk.sizeOf_spec]
    omega
  omega

/-- induction over views, by `sizeOf` (a view nests through a list) -/
theorem BucketView.ind {P : BucketView → Prop} (h : ∀ v, (∀ x ∈ v.subs, P x.2) → P v) : ∀ v, P v := by
  intro v
  generalize hn : sizeOf v = n
  induction n using Nat.strongRecOn generalizing v with
  | _ n ih =>
    apply h
    intro x hx
    exact ih (sizeOf x.2) (by rw [← hn]; exact BucketView.sizeOf_sub v x hx) x.2 rfl

theorem BucketView.weight_sub (v : BucketView) (x : Bytes × BucketView) (hx : x ∈ v.subs) :
    x.2.weight + v.tree.nodes + 1 ≤ v.weight := by
  rw [BucketView.weight_eq v]
  have := le_sum_of_mem (v.subs.map (fun s => s.2.weight)) x.2.weight (List.mem_map.2 ⟨x, hx, rfl⟩)
  omega

section
variable (L : Layout) (pagesize : Nat)

theorem BucketView.fits_iff (ov : Nat → Nat) (size : Nat) (v : BucketView) :
    v.fits L pagesize ov size ↔
      (nodesFit L pagesize ov size v.tree = true ∧ ∀ s ∈ v.subs, s.2.fits L pagesize ov size) := by
  rw [BucketView.fits]

def writeFreshView (fresh : Nat → Bool) (ov : Nat → Nat) (v : BucketView) (s : Src) : Src :=
  v.subs.attach.foldl (fun acc x => writeFreshView fresh ov x.1.2 acc) (writeFreshT L pagesize fresh ov v.tree s)
termination_by sizeOf v
decreasing_by
  have hs := x.2
  have h1 : sizeOf x.1 < sizeOf v.subs := List.sizeOf_lt_of_mem hs
  have h2 : sizeOf x.1.snd < sizeOf x.1 := by
    obtain ⟨⟨k, w⟩, _⟩ := x
    simp only [Prod.mk.sizeOf_spec]
    omega
  have h3 : sizeOf v.subs < sizeOf v := by
    obtain ⟨t, n, ss⟩ := v
    simp only [BucketView.mk.sizeOf_spec]
    omega
  omega

def BucketView.freshRuns (fresh : Nat → Bool) (ov : Nat → Nat) (v : BucketView) : List (Nat × Nat) :=
  freshRunsT fresh ov v.tree ++ v.subs.flatMap (fun s => s.2.freshRuns fresh ov)
termination_by sizeOf v
decreasing_by
  rename_i hs
  have h1 : sizeOf s < sizeOf v.subs := List.sizeOf_lt_of_mem hs
  have h2 : sizeOf s.snd < sizeOf s := by
    obtain ⟨k, w⟩ := s
    simp only [Prod.mk.sizeOf_spec]
    omega
  have h3 : sizeOf v.subs < sizeOf v := by
    obtain ⟨t, n, ss⟩ := v
    simp only [BucketView.mk.sizeOf_spec]
    omega
  omega

inductive SharedV (fresh : Nat → Bool) (ov : Nat → Nat) (s : Src) : BucketView → Prop where
  | mk (v : BucketView) : SharedT L pagesize fresh ov s v.tree → (∀ x ∈ v.subs, SharedV fresh ov s x.2) →
      SharedV fresh ov s v

theorem BucketView.freshRuns_eq (fresh : Nat → Bool) (ov : Nat → Nat) (v : BucketView) :
    v.freshRuns fresh ov = freshRunsT fresh ov v.tree ++ v.subs.flatMap (fun s => s.2.freshRuns fresh ov) := by
  rw [BucketView.freshRuns]

def writeFreshSubs (fresh : Nat → Bool) (ov : Nat → Nat) (l : List (Bytes × BucketView)) (s : Src) : Src :=
  l.foldl (fun acc x => writeFreshView L pagesize fresh ov x.2 acc) s

theorem writeFreshSubs_nil (fresh : Nat → Bool) (ov : Nat → Nat) (s : Src) :
    writeFreshSubs L pagesize fresh ov [] s = s := rfl

inductive StoredV (ov : Nat → Nat) (s : Src) : BucketView → Prop where
  | mk (v : BucketView) : StoredT L pagesize ov s v.tree → (∀ x ∈ v.subs, StoredV ov s x.2) → StoredV ov s v

def writeSubs (ov : Nat → Nat) (l : List (Bytes × BucketView)) (s : Src) : Src :=
  l.foldl (fun acc x => writeView L pagesize ov x.2 acc) s

theorem writeSubs_nil (ov : Nat → Nat) (s : Src) : writeSubs L pagesize ov [] s = s := rfl

end

section
variable {L : Layout} {pagesize : Nat}

theorem writeFreshView_eq (fresh : Nat → Bool) (ov : Nat → Nat) (v : BucketView) (s : Src) :
    writeFreshView L pagesize fresh ov v s =
      writeFreshSubs L pagesize fresh ov v.subs (writeFreshT L pagesize fresh ov v.tree s) := by
  rw [writeFreshView]
  exact List.foldl_attach (f := fun acc (x : Bytes × BucketView) => writeFreshView L pagesize fresh ov x.2 acc)

theorem SharedV.tree {fresh : Nat → Bool} {ov : Nat → Nat} {s : Src} {v : BucketView}
    (h : SharedV L pagesize fresh ov s v) : SharedT L pagesize fresh ov s v.tree := by
  cases h with | mk _ h1 h2 => exact h1

theorem SharedV.subs {fresh : Nat → Bool} {ov : Nat → Nat} {s : Src} {v : BucketView}
    (h : SharedV L pagesize fresh ov s v) : ∀ x ∈ v.subs, SharedV L pagesize fresh ov s x.2 := by
  cases h with | mk _ h1 h2 => exact h2

theorem StoredV.tree {ov : Nat → Nat} {s : Src} {v : BucketView} (h : StoredV L pagesize ov s v) :
    StoredT L pagesize ov s v.tree := by
  cases h with | mk _ h1 h2 => exact h1

theorem StoredV.subs {ov : Nat → Nat} {s : Src} {v : BucketView} (h : StoredV L pagesize ov s v) :
    ∀ x ∈ v.subs, StoredV L pagesize ov s x.2 := by
  cases h with | mk _ h1 h2 => exact h2

theorem writeFreshView_size (fresh : Nat → Bool) (ov : Nat → Nat) (v : BucketView) :
    ∀ s, (writeFreshView L pagesize fresh ov v s).size = s.size := by
  induction v using BucketView.ind with
  | _ v ih =>
    intro s
    rw [writeFreshView_eq, writeFreshSubs, foldl_unchanged _ Src.size v.subs ih, writeFreshT_size]

theorem BucketView.freshRuns_eq_filter (fresh : Nat → Bool) (ov : Nat → Nat) (v : BucketView) :
    v.freshRuns fresh ov = (v.allRuns ov).filter (fun r => fresh r.1) := by
  induction v using BucketView.ind with
  | _ v ih =>
    rw [BucketView.freshRuns_eq, BucketView.allRuns_eq, List.filter_append, List.filter_flatMap, freshRunsT_eq_filter,
      List.flatMap_def, List.flatMap_def, List.map_congr_left ih]

theorem BucketView.freshRuns_subset (fresh : Nat → Bool) (ov : Nat → Nat) (v : BucketView) :
    v.freshRuns fresh ov ⊆ v.allRuns ov := by
  rw [BucketView.freshRuns_eq_filter]
  exact List.filter_sublist.subset

theorem writeFreshView_writes (hE : L.WFEnc = true) (fresh : Nat → Bool) (ov : Nat → Nat) (sz : Nat) (v : BucketView)
    (hfit : v.fits L pagesize ov sz) : WritesRuns pagesize (v.freshRuns fresh ov) (writeFreshView L pagesize fresh ov v) := by
  induction v using BucketView.ind with
  | _ v ih =>
    intro s
    rw [BucketView.fits_iff] at hfit
    rw [BucketView.freshRuns_eq, writeFreshView_eq]
    exact ((writeFreshT_writes hE fresh ov sz v.tree hfit.1).then
      (WritesRuns.foldl fun x hx => ih x hx (hfit.2 x hx))) s

theorem sharedV_noneFresh (ov : Nat → Nat) (s : Src) (v : BucketView) :
    SharedV L pagesize (fun _ => false) ov s v ↔ StoredV L pagesize ov s v := by
  induction v using BucketView.ind with
  | _ v ih =>
    exact ⟨fun h => .mk v ((sharedT_noneFresh ov s v.tree).1 h.tree) fun x hx => (ih x hx).1 (h.subs x hx),
      fun h => .mk v ((sharedT_noneFresh ov s v.tree).2 h.tree) fun x hx => (ih x hx).2 (h.subs x hx)⟩

theorem sharedV_reads (W : L.WF) (hhdr : L.pageSize ≤ pagesize) (fresh : Nat → Bool) (ov : Nat → Nat) (v : BucketView) :
    ReadsRuns pagesize (v.allRuns ov) (fun s => SharedV L pagesize fresh ov s v) := by
  induction v using BucketView.ind with
  | _ v ih =>
    intro s s' hsz hag h
    rw [BucketView.allRuns_eq] at hag
    exact .mk v ((sharedT_reads W hhdr fresh ov v.tree).mono (List.subset_append_left _ _) s s' hsz hag h.tree)
      fun x hx => ih x hx s s' hsz (fun r hr => hag r (List.mem_append_right _ (List.mem_flatMap.2 ⟨x, hx, hr⟩)))
        (h.subs x hx)

theorem storedV_reads (W : L.WF) (hhdr : L.pageSize ≤ pagesize) (ov : Nat → Nat) (v : BucketView) :
    ReadsRuns pagesize (v.allRuns ov) (fun s => StoredV L pagesize ov s v) :=
  fun s s' hsz hag h => (sharedV_noneFresh ov s' v).1
    (sharedV_reads W hhdr _ ov v s s' hsz hag ((sharedV_noneFresh ov s v).2 h))

theorem writeView_eq_fresh (ov : Nat → Nat) (v : BucketView) :
    ∀ s, writeView L pagesize ov v s = writeFreshView L pagesize (fun _ => true) ov v s := by
  induction v using BucketView.ind with
  | _ v ih =>
    intro s
    have : (fun acc (x : { x // x ∈ v.subs }) => writeView L pagesize ov x.1.2 acc) =
        fun acc x => writeFreshView L pagesize (fun _ => true) ov x.1.2 acc :=
      funext fun acc => funext fun x => ih x.1 x.2 acc
    rw [writeView, writeFreshView, this, writeTreeT_eq_fresh]

theorem BucketView.freshRuns_all (ov : Nat → Nat) (v : BucketView) :
    v.freshRuns (fun _ => true) ov = v.allRuns ov := by
  rw [BucketView.freshRuns_eq_filter]
  exact List.filter_eq_self.2 fun _ _ => rfl

theorem sharedV_allFresh (ov : Nat → Nat) (s : Src) (v : BucketView) : SharedV L pagesize (fun _ => true) ov s v := by
  induction v using BucketView.ind with
  | _ v ih => exact .mk v (sharedT_allFresh ov s v.tree) ih

theorem writeView_size (ov : Nat → Nat) (v : BucketView) (s : Src) :
    (writeView L pagesize ov v s).size = s.size := by
  rw [writeView_eq_fresh]
  exact writeFreshView_size _ ov v s

theorem viewSubs_ok (f : Nat → Nat → Except FileErr BucketView) :
    ∀ (es : List (Bytes × Nat × Nat)) (vs : List (Bytes × BucketView)),
    SubsOK es vs → (∀ x ∈ vs, ViewOK x.2 → f x.2.tree.pid x.2.nextInt = .ok x.2) → viewSubs f es = .ok vs := by
  intro es vs h hf
  induction vs generalizing es with
  | nil => cases h; rfl
  | cons y vs ih =>
    cases h with
    | cons k r n w es' vs' h1 h2 h3 h4 =>
      have e1 := hf (k, w) List.mem_cons_self h3
      simp only [h1, h2] at e1
      have e2 := ih es' h4 (fun x hx => hf x (List.mem_cons_of_mem _ hx))
      simp only [viewSubs, e1, e2]

theorem viewBucket_stored (ov : Nat → Nat) (s : Src) (v : BucketView) :
    ∀ fuel, StoredV L pagesize ov s v → ViewOK v → v.weight ≤ fuel →
      viewBucket (pageStoreOf L pagesize s) fuel v.tree.pid v.nextInt = .ok v := by
  induction v using BucketView.ind with
  | _ v ih =>
    intro fuel hst hok hfuel
    cases hok with
    | mk _ hwf hsubs =>
      have hw : v.tree.nodes + 1 ≤ v.weight := by rw [BucketView.weight_eq]; omega
      match fuel, hfuel with
      | 0, hfuel => omega
      | fuel' + 1, hfuel =>
        have hu := unfoldT_stored L pagesize ov s v.tree hst.tree (fuel' + 1) (by omega)
        have hvs := viewSubs_ok (viewBucket (pageStoreOf L pagesize s) fuel') _ v.subs hsubs
          (fun x hx hokx => ih x hx fuel' (hst.subs x hx) hokx
            (by have := BucketView.weight_sub v x hx; omega))
        rw [viewBucket]
        simp only [hu, hwf, hvs, Bool.not_true, Bool.false_eq_true, if_false]
        cases v
        rfl

end

section
variable (L : Layout) (pagesize : Nat)

theorem writeFreshView_stored (hL : L.WFEnc = true) (hhdr : L.pageSize ≤ pagesize) (fresh : Nat → Bool)
    (ov : Nat → Nat) (sz : Nat) (v : BucketView) :
    ∀ s : Src, s.size = sz → v.fits L pagesize ov sz → (v.allRuns ov).Pairwise runsDisjoint →
      SharedV L pagesize fresh ov s v →
      StoredV L pagesize ov (writeFreshView L pagesize fresh ov v s) v := by
  induction v using BucketView.ind with
  | _ v ih =>
    intro s hs hfit hdisj hsh
    rw [BucketView.fits_iff] at hfit
    rw [BucketView.allRuns_eq, List.pairwise_append, List.pairwise_flatMap] at hdisj
    obtain ⟨htree, ⟨hin, hbetween⟩, hown⟩ := hdisj
    rw [writeFreshView_eq, writeFreshSubs]
    have W := Layout.WF.of L hL
    -- `foldl_stores`: the nested buckets are the members, each taken from `SharedV` to `StoredV` on its own runs; the
    -- bucket's own tree, written first, is the bystander
    have hw1 := (writeFreshT_writes hL fresh ov sz v.tree hfit.1).mono (freshRunsT_subset fresh ov v.tree)
    obtain ⟨h1, h2⟩ := foldl_stores sz (w := fun x => writeFreshView L pagesize fresh ov x.2)
      (rs := fun x => x.2.allRuns ov) (Pre := fun x s => SharedV L pagesize fresh ov s x.2)
      (Post := fun x s => StoredV L pagesize ov s x.2) (l := v.subs)
      (P₀ := fun s => StoredT L pagesize ov s v.tree) (rs₀ := nodeRunsT ov v.tree)
      (hw := fun x hx => (writeFreshView_writes hL fresh ov sz x.2 (hfit.2 x hx)).mono (x.2.freshRuns_subset fresh ov))
      (hpre := fun x _ => sharedV_reads W hhdr fresh ov x.2) (hpost := fun x _ => storedV_reads W hhdr ov x.2)
      (hstep := fun x hx s hs => ih x hx s hs (hfit.2 x hx) (hin x hx)) (hdisj := hbetween)
      (hP₀ := storedT_reads W hhdr ov v.tree)
      (hd₀ := fun a ha x hx b hb => hown a ha b (List.mem_flatMap.2 ⟨x, hx, hb⟩))
      _ ((hw1.size s).trans hs) (writeFreshT_stored L pagesize hL hhdr fresh ov sz v.tree s hs hfit.1 htree hsh.tree)
      fun x hx => (sharedV_reads W hhdr fresh ov x.2).after hw1
        (fun a ha b hb => runsDisjoint_symm (hown b hb a (List.mem_flatMap.2 ⟨x, hx, ha⟩))) (hsh.subs x hx)
    exact .mk v h1 h2

theorem writeView_frame (hL : L.WFEnc = true) (ov : Nat → Nat) (v : BucketView) (s : Src) (i : Nat)
    (hfit : v.fits L pagesize ov s.size)
    (h : ∀ r ∈ v.allRuns ov, i < r.1 * pagesize ∨ (r.1 + r.2 + 1) * pagesize ≤ i) :
    (writeView L pagesize ov v s).get i = s.get i ∧ (writeView L pagesize ov v s).size = s.size := by
  rw [writeView_eq_fresh]
  have hw := writeFreshView_writes hL (fun _ => true) ov s.size v hfit
  exact ⟨hw.get s (RunOut.mono h (v.freshRuns_subset _ ov)), hw.size s⟩

/-- C01 `written_database_reads_back`, for any layout -/
theorem viewBucket_writeView (hL : L.WFEnc = true) (hhdr : L.pageSize ≤ pagesize) (ov : Nat → Nat)
    (v : BucketView) (s : Src) (hok : ViewOK v)
    (hfit : v.fits L pagesize ov s.size)
    (hdisj : (v.allRuns ov).Pairwise runsDisjoint)
    (fuel : Nat) (hfuel : v.weight ≤ fuel) :
    viewBucket (pageStoreOf L pagesize (writeView L pagesize ov v s)) fuel v.tree.pid v.nextInt = .ok v := by
  rw [writeView_eq_fresh]
  exact viewBucket_stored ov _ v fuel
    (writeFreshView_stored L pagesize hL hhdr _ ov s.size v s rfl hfit hdisj (sharedV_allFresh ov s v)) hok hfuel

end
end Jamm
