/-
Layer S: the whole-file checker is sound.  If `checkFile` accepts, then (a) every bucket, at every nesting
depth, unfolds from its root page to a well-formed tree, linked to its parent through a bucket entry that
names its root page and counter; (b) the pages reached through the trees (with their overflow runs), the run
of the free-list page and the entries of the free list are pairwise distinct and are exactly the pages
`2 .. numPages-1`; (c) the file is long enough for `numPages` pages.  (a) is `GoodView`; (b) is proved as a
permutation (`checkFile_ok`), from which `checkFile_sound` reads off `Nodup` and the range.
-/
import Jamm.Proofs.FileCheckLemmas
import Jamm.Proofs.ListLemmas

namespace Jamm

mutual
/-- `fuel - 1`: as `viewBucket` recurses.  `v.nextInt` is not constrained here: `GoodSubs.cons` ties a nested view's
counter to its entry, `viewBucket_good` the root's. -/
inductive GoodView (pg : PageStore) : Nat → Nat → BucketView → Prop where
  | mk (fuel root : Nat) (v : BucketView) :
      unfoldT pg fuel root = some v.tree → WF (K := Bytes) none none v.tree →
      GoodSubs pg (fuel - 1) (subBuckets v.tree.flatten) v.subs → GoodView pg fuel root v
inductive GoodSubs (pg : PageStore) : Nat → List (Bytes × Nat × Nat) → List (Bytes × BucketView) → Prop where
  | nil (fuel : Nat) : GoodSubs pg fuel [] []
  | cons (fuel : Nat) (k : Bytes) (r n : Nat) (v : BucketView) (es : List (Bytes × Nat × Nat))
      (vs : List (Bytes × BucketView)) :
      GoodView pg fuel r v → v.nextInt = n → GoodSubs pg fuel es vs →
      GoodSubs pg fuel ((k, r, n) :: es) ((k, v) :: vs)
end

section
variable {pg : PageStore} {fuel root : Nat} {v : BucketView} (h : GoodView pg fuel root v)
include h

theorem GoodView.unfold : unfoldT pg fuel root = some v.tree := by
  cases h with | mk _ _ _ hu _ _ => exact hu

theorem GoodView.wf : WF (K := Bytes) none none v.tree := by
  cases h with | mk _ _ _ _ hwf _ => exact hwf

theorem GoodView.subs : GoodSubs pg (fuel - 1) (subBuckets v.tree.flatten) v.subs := by
  cases h with | mk _ _ _ _ _ hs => exact hs

theorem GoodView.fuel_pos : 0 < fuel := by
  cases fuel with
  | zero => have hu := h.unfold; simp [unfoldT] at hu
  | succ f => exact Nat.succ_pos f

end

section
variable {pg : PageStore} {fuel : Nat}

theorem GoodSubs.nil_inv {vs : List (Bytes × BucketView)} (h : GoodSubs pg fuel [] vs) : vs = [] := by
  cases h; rfl

theorem GoodSubs.cons_inv {k : Bytes} {r n : Nat} {sb : List (Bytes × Nat × Nat)} {vs : List (Bytes × BucketView)}
    (h : GoodSubs pg fuel ((k, r, n) :: sb) vs) :
    ∃ w vs', vs = (k, w) :: vs' ∧ GoodView pg fuel r w ∧ w.nextInt = n ∧ GoodSubs pg fuel sb vs' := by
  cases h with
  | cons _ _ _ _ w _ vs' hv hn hrest => exact ⟨w, vs', rfl, hv, hn, hrest⟩

end

theorem GoodSubs.split {pg : PageStore} {f : Nat} : ∀ (a b : List (Bytes × Nat × Nat))
    (vs : List (Bytes × BucketView)), GoodSubs pg f (a ++ b) vs →
    ∃ va vb, vs = va ++ vb ∧ GoodSubs pg f a va ∧ GoodSubs pg f b vb
  | [], b, vs, h => ⟨[], vs, rfl, GoodSubs.nil f, h⟩
  | (k, r, n) :: a, b, vs, h => by
    obtain ⟨v, vs', rfl, hv, hn, hrest⟩ := GoodSubs.cons_inv h
    obtain ⟨va, vb, rfl, h1, h2⟩ := GoodSubs.split a b vs' hrest
    exact ⟨(k, v) :: va, vb, rfl, GoodSubs.cons f k r n v a va hv hn h1, h2⟩

theorem GoodSubs.mem {pg : PageStore} {f : Nat} {sb : List (Bytes × Nat × Nat)} {vs : List (Bytes × BucketView)}
    (h : GoodSubs pg f sb vs) : ∀ s ∈ vs, ∃ r n, (s.1, r, n) ∈ sb ∧ GoodView pg f r s.2 ∧ s.2.nextInt = n := by
  induction sb generalizing vs with
  | nil => rw [h.nil_inv]; nofun
  | cons e sb ih =>
    obtain ⟨k, r, n⟩ := e
    obtain ⟨w, vs', rfl, hv, hn, hrest⟩ := h.cons_inv
    intro s hs
    rcases List.mem_cons.mp hs with rfl | hs
    · exact ⟨r, n, List.mem_cons_self, hv, hn⟩
    · obtain ⟨r', n', hm, hg⟩ := ih hrest s hs
      exact ⟨r', n', List.mem_cons_of_mem _ hm, hg⟩

theorem viewSubs_good (pg : PageStore) (fuel : Nat)
    (ih : ∀ r n v, viewBucket pg fuel r n = .ok v → GoodView pg fuel r v ∧ v.nextInt = n) :
    ∀ (es : List (Bytes × Nat × Nat)) (vs : List (Bytes × BucketView)),
      viewSubs (viewBucket pg fuel) es = .ok vs → GoodSubs pg fuel es vs := by
  intro es
  induction es with
  | nil =>
    intro vs h
    simp only [viewSubs] at h
    cases h
    exact GoodSubs.nil fuel
  | cons e rest ihl =>
    intro vs h
    obtain ⟨k, r, n⟩ := e
    simp only [viewSubs] at h
    split at h
    · rename_i v vs' hv hvs
      cases h
      obtain ⟨h1, h2⟩ := ih r n v hv
      exact GoodSubs.cons fuel k r n v rest vs' h1 h2 (ihl vs' hvs)
    · cases h
    · cases h

theorem viewBucket_good (pg : PageStore) (fuel : Nat) :
    ∀ (root n : Nat) (v : BucketView), viewBucket pg fuel root n = .ok v →
      GoodView pg fuel root v ∧ v.nextInt = n := by
  induction fuel with
  | zero =>
    intro root n v h
    simp [viewBucket] at h
  | succ fuel ih =>
    intro root n v h
    unfold viewBucket at h
    split at h
    · cases h
    · rename_i t ht
      split at h
      · cases h
      · rename_i hwf
        split at h
        · rename_i subs hsubs
          cases h
          have hw : wfb (K := Bytes) none none t = true := by simpa using hwf
          exact ⟨GoodView.mk (fuel + 1) root _ ht (wfb_sound none none t hw) (viewSubs_good pg fuel ih _ _ hsubs), rfl⟩
        · cases h

/-- the accounting as a permutation: the form that composes (`implCheck_of_checkFile` threads it through
`implCheckLoop_owns`) -/
theorem checkFile_ok {mt : MetaRec} {pg : PageStore} {fileSize pagesize : Nat} {sum : FileSummary}
    (h : checkFile mt pg fileSize pagesize = .ok sum) :
    GoodView pg (mt.numPages + 1) mt.rootPage sum.root ∧
    sum.root.nextInt = mt.nextInt ∧
    sum.reach = expandRuns (sum.root.runs pg) ∧
    (∃ fp, pg mt.freelistPage = some fp ∧ fp.body = .freelist sum.free ∧
      sum.freelistRun = (List.range (fp.overflow + 1)).map (· + mt.freelistPage)) ∧
    (sum.reach ++ sum.freelistRun ++ sum.free).Perm ((List.range (mt.numPages - 2)).map (· + 2)) ∧
    mt.numPages * pagesize ≤ fileSize := by
  unfold checkFile at h
  split at h
  · cases h
  · rename_i hsz
    split at h
    · cases h
    · rename_i root hroot
      split at h
      · rename_i fp hfp
        split at h
        · rename_i ids hids
          simp only at h
          split at h
          · rename_i hall
            cases h
            obtain ⟨hg, hn⟩ := viewBucket_good pg _ _ _ _ hroot
            exact ⟨hg, hn, rfl, ⟨fp, hfp, hids, rfl⟩,
              eq_of_beq hall ▸ (List.mergeSort_perm _ _).symm, by omega⟩
          · cases h
        · cases h
      · cases h

/-- (a)–(c) of the head comment; C05 `file_check_is_sound` -/
theorem checkFile_sound (mt : MetaRec) (pg : PageStore) (fileSize pagesize : Nat) (sum : FileSummary)
    (h : checkFile mt pg fileSize pagesize = .ok sum) :
    GoodView pg (mt.numPages + 1) mt.rootPage sum.root ∧
    sum.root.nextInt = mt.nextInt ∧
    sum.reach = expandRuns (sum.root.runs pg) ∧
    (∃ fp, pg mt.freelistPage = some fp ∧ fp.body = .freelist sum.free ∧
      sum.freelistRun = (List.range (fp.overflow + 1)).map (· + mt.freelistPage)) ∧
    (sum.reach ++ sum.freelistRun ++ sum.free).Nodup ∧
    (∀ p, p ∈ sum.reach ++ sum.freelistRun ++ sum.free ↔ 2 ≤ p ∧ p < mt.numPages) ∧
    mt.numPages * pagesize ≤ fileSize := by
  obtain ⟨hg, hn, hr, hfl, hperm, hsz⟩ := checkFile_ok h
  obtain ⟨hnd, hmem⟩ := nodup_mem_of_perm_range hperm
  exact ⟨hg, hn, hr, hfl, hnd, fun p => by rw [hmem p]; omega, hsz⟩

end Jamm
