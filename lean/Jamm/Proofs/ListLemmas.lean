/-
Facts about lists that no layer owns.
-/
namespace Jamm

theorem foldl_keeps_mem {α β : Type} {f : β → α → β} {P : β → Prop} :
    ∀ (l : List α), (∀ b, ∀ a ∈ l, P b → P (f b a)) → ∀ b, P b → P (l.foldl f b)
  | [], _, _, hb => hb
  | a :: l, h, b, hb =>
    foldl_keeps_mem l (fun b x hx => h b x (List.mem_cons_of_mem _ hx)) (f b a) (h b a List.mem_cons_self hb)

theorem foldl_keeps {α β : Type} {f : β → α → β} {P : β → Prop} (h : ∀ b a, P b → P (f b a)) (l : List α) (b : β) :
    P b → P (l.foldl f b) :=
  foldl_keeps_mem l (fun b a _ => h b a) b

theorem foldl_unchanged {α β γ : Type} (f : β → α → β) (g : β → γ) (l : List α)
    (h : ∀ a ∈ l, ∀ b, g (f b a) = g b) (b : β) : g (l.foldl f b) = g b :=
  foldl_keeps_mem (P := fun b' => g b' = g b) l (fun b' a ha e => (h a ha b').trans e) b rfl

theorem append_subset_append {α : Type} {a a' b b' : List α} (h : a ⊆ a') (h' : b ⊆ b') : a ++ b ⊆ a' ++ b' :=
  List.append_subset.2 ⟨List.subset_append_of_subset_left _ h, List.subset_append_of_subset_right _ h'⟩

theorem pairwise_cons_cons {β : Type} {R : β → β → Prop} (tr : ∀ {a b c}, R a b → R b c → R a c)
    {a b : β} {l : List β} : (a :: b :: l).Pairwise R ↔ R a b ∧ (b :: l).Pairwise R := by
  rw [List.pairwise_cons (a := a)]
  refine and_congr_left fun hp => ⟨fun h => h b List.mem_cons_self, fun hab c hc => ?_⟩
  rcases List.mem_cons.mp hc with rfl | hc
  · exact hab
  · exact tr hab (List.rel_of_pairwise_cons hp hc)

theorem takeWhile_eq_filter {α : Type} {p : α → Bool} {l : List α}
    (h : l.Pairwise (fun a b => p b = true → p a = true)) : l.takeWhile p = l.filter p := by
  induction l with
  | nil => rfl
  | cons a rest ih =>
    rw [List.pairwise_cons] at h
    by_cases ha : p a = true
    · rw [List.takeWhile_cons_of_pos ha, List.filter_cons_of_pos ha, ih h.2]
    · rw [List.takeWhile_cons_of_neg ha, List.filter_cons_of_neg ha]
      exact (List.filter_eq_nil_iff.2 fun b hb hpb => ha (h.1 b hb hpb)).symm

theorem dropWhile_eq_filter {α : Type} {p : α → Bool} {l : List α}
    (h : l.Pairwise (fun a b => p b = true → p a = true)) : l.dropWhile p = l.filter (fun a => !p a) := by
  induction l with
  | nil => rfl
  | cons a rest ih =>
    rw [List.pairwise_cons] at h
    by_cases ha : p a = true
    · rw [List.dropWhile_cons_of_pos ha, List.filter_cons_of_neg (by simp [ha]), ih h.2]
    · rw [List.dropWhile_cons_of_neg ha]
      exact (List.filter_eq_self.2 fun b hb => by
        rcases List.mem_cons.1 hb with rfl | hb
        · simpa using ha
        · simpa using fun hpb => ha (h.1 b hb hpb)).symm

theorem filter_append_eq_left {α : Type} {p : α → Bool} {l l' : List α} (h : ∀ a ∈ l, p a = true)
    (h' : ∀ a ∈ l', p a = false) : (l ++ l').filter p = l := by
  rw [List.filter_append, List.filter_eq_self.mpr h,
    List.filter_eq_nil_iff.mpr (fun a ha => by simp [h' a ha]), List.append_nil]

theorem filter_append_eq_right {α : Type} {p : α → Bool} {l l' : List α} (h : ∀ a ∈ l, p a = false)
    (h' : ∀ a ∈ l', p a = true) : (l ++ l').filter p = l' := by
  rw [List.filter_append, List.filter_eq_self.mpr h',
    List.filter_eq_nil_iff.mpr (fun a ha => by simp [h a ha]), List.nil_append]

theorem perm_swap4 {α : Type} (a b c d : List α) : ((b ++ d) ++ (a ++ c)).Perm ((a ++ b) ++ (c ++ d)) := by
  have h1 : ((b ++ d) ++ (a ++ c)).Perm ((a ++ c) ++ (b ++ d)) := List.perm_append_comm
  rw [List.append_assoc, List.append_assoc] at *
  exact h1.trans ((List.perm_append_comm_assoc c b d).append_left a)

theorem takeWhile_append_eq_left {α : Type} {p : α → Bool} {A B : List α} (hA : ∀ a ∈ A, p a = true)
    (hB : ∀ b ∈ B.head?, p b = false) : (A ++ B).takeWhile p = A := by
  rw [List.takeWhile_append_of_pos hA]
  cases B with
  | nil => simp
  | cons b B' => simp [hB b rfl]

theorem dropWhile_append_eq_right {α : Type} {p : α → Bool} {A B : List α} (hA : ∀ a ∈ A, p a = true)
    (hB : ∀ b ∈ B.head?, p b = false) : (A ++ B).dropWhile p = B := by
  rw [List.dropWhile_append_of_pos hA]
  cases B with
  | nil => rfl
  | cons b B' => simp [hB b rfl]

theorem flatMap_flatten {α β : Type} (f : α → List β) (L : List (List α)) :
    L.flatten.flatMap f = L.flatMap (·.flatMap f) := by
  rw [← List.flatMap_id, List.flatMap_assoc]; rfl

theorem mem_of_eq_singleton {α : Type} {l : List α} {a : α} (h : l = [a]) : a ∈ l :=
  h ▸ List.mem_cons_self

theorem le_sum_of_mem (l : List Nat) (a : Nat) (h : a ∈ l) : a ≤ l.sum := by
  induction l with
  | nil => cases h
  | cons b l ih =>
    rw [List.sum_cons]
    rcases List.mem_cons.1 h with h | h
    · omega
    · have := ih h; omega

theorem map_split_of_nodup {α β : Type} {l : List α} (hnd : l.Nodup) {a : α} (ha : a ∈ l) (f g : α → β)
    (h : ∀ i, i ≠ a → g i = f i) : ∃ pre post, l.map f = pre ++ f a :: post ∧ l.map g = pre ++ g a :: post := by
  obtain ⟨p, q, rfl⟩ := List.append_of_mem ha
  obtain ⟨-, hq, hp⟩ := List.nodup_append.1 hnd
  refine ⟨p.map f, q.map f, List.map_append, ?_⟩
  rw [List.map_append, List.map_cons, List.map_congr_left fun i hi => h i (hp i hi a List.mem_cons_self),
    List.map_congr_left fun i hi => h i fun e => (List.nodup_cons.1 hq).1 (e ▸ hi)]

theorem filter_length_le_one {α} (p : α → Bool) : ∀ (l : List α),
    (∀ (j k : Nat) (a b : α), l[j]? = some a → l[k]? = some b → p a = true → p b = true → j = k) →
    (l.filter p).length ≤ 1
  | [], _ => Nat.zero_le _
  | x :: xs, h => by
    have ih := filter_length_le_one p xs fun j k a b ha hb pa pb => Nat.succ.inj (h (j+1) (k+1) a b ha hb pa pb)
    by_cases hx : p x = true
    · rw [List.filter_cons_of_pos hx, List.filter_eq_nil_iff.2 fun y hy hpy => ?_]
      · exact Nat.le_refl 1
      · obtain ⟨k, hk⟩ := List.getElem?_of_mem hy
        exact absurd (h 0 (k+1) x y rfl hk hx hpy) (Nat.succ_ne_zero k).symm
    · rw [List.filter_cons_of_neg hx]; exact ih

theorem getElem?_set_of_getElem? {α} {l : List α} {i : Nat} {a : α} (b : α) (j : Nat) (h : l[i]? = some a) :
    (l.set i b)[j]? = if i = j then some b else l[j]? := by
  rw [List.getElem?_set, if_pos (List.getElem?_eq_some_iff.1 h).1]

theorem filter_set_length {α : Type} (p : α → Bool) (l : List α) (i : Nat) (a b : α) (h : l[i]? = some a) :
    ((l.set i b).filter p).length + (if p a then 1 else 0) = (l.filter p).length + (if p b then 1 else 0) := by
  obtain ⟨hi, rfl⟩ := List.getElem?_eq_some_iff.1 h
  -- `(if p l[i] then 1 else 0) ≤ countP p l`: what lets `omega` subtract the old element's contribution
  have := List.boole_getElem_le_countP (p := p) hi
  rw [← List.countP_eq_length_filter, ← List.countP_eq_length_filter, List.countP_set hi]
  omega

theorem filter_length_eq_zero {α : Type} {p : α → Bool} {l : List α} (h : l.any p = false) :
    (l.filter p).length = 0 := by
  rw [List.length_eq_zero_iff, List.filter_eq_nil_iff]
  exact fun a ha => by simpa using List.any_eq_false.1 h a ha

theorem filter_set_length_le {α : Type} (p : α → Bool) (l : List α) (i : Nat) (a b : α) (h : l[i]? = some a)
    (hp : p b = true → p a = true) : ((l.set i b).filter p).length ≤ (l.filter p).length := by
  have hset := filter_set_length p l i a b h
  cases hb : p b with
  | false => rw [hb] at hset; simp only [Bool.false_eq_true, if_false] at hset; omega
  | true => rw [hb, hp hb] at hset; omega

theorem filter_set_length_le_one {α : Type} (p : α → Bool) (l : List α) (i : Nat) (a b : α) (h : l[i]? = some a)
    (hnone : l.any p = false) : ((l.set i b).filter p).length ≤ 1 := by
  have hset := filter_set_length p l i a b h
  rw [filter_length_eq_zero hnone] at hset
  split at hset <;> split at hset <;> omega

theorem sum_map_set_lt {α : Type} (f : α → Nat) :
    ∀ (l : List α) (i : Nat) (a b : α), l[i]? = some a → f b < f a →
      ((l.set i b).map f).sum < (l.map f).sum
  | [], _, _, _, h, _ => nomatch h
  | x :: xs, 0, a, b, h, hf => by
    cases h
    simp only [List.set_cons_zero, List.map_cons, List.sum_cons]; omega
  | x :: xs, i+1, a, b, h, hf => by
    have ih := sum_map_set_lt f xs i a b h hf
    simp only [List.set_cons_succ, List.map_cons, List.sum_cons]; omega

theorem map_range_add (s n : Nat) : (List.range n).map (· + s) = List.range' s n := by
  rw [List.range'_eq_map_range]; exact List.map_congr_left fun i _ => Nat.add_comm i s

theorem pairwise_lt_nodup {l : List Nat} (h : l.Pairwise (· < ·)) : l.Nodup :=
  h.imp (fun hab => Nat.ne_of_lt hab)

theorem forall_ne_iff {l₁ l₂ : List Nat} : (∀ a ∈ l₁, ∀ b ∈ l₂, a ≠ b) ↔ ∀ a ∈ l₁, a ∉ l₂ :=
  ⟨fun h a ha hb => h a ha a hb rfl, fun h a ha _ hb e => h a ha (e ▸ hb)⟩

theorem mem_filter_not_freed (reach freed : List Nat) (p : Nat) :
    p ∈ reach.filter (fun p => !freed.contains p) ↔ (p ∈ reach ∧ p ∉ freed) := by
  simp

theorem pairwise_lt_length_le {N a : Nat} {l : List Nat} (hl : l.Pairwise (· < ·))
    (hr : ∀ x ∈ l, a ≤ x ∧ x < N) (haN : a ≤ N) : a + l.length ≤ N := by
  have := (pairwise_lt_nodup hl).length_le_of_subset (l₂ := List.range' a (N - a))
    (fun x hx => List.mem_range'_1.2 ⟨(hr x hx).1, by have := (hr x hx).2; omega⟩)
  rw [List.length_range'] at this
  omega

theorem pairwise_lt_ext (l1 l2 : List Nat) (h1 : l1.Pairwise (· < ·)) (h2 : l2.Pairwise (· < ·))
    (h : ∀ p, p ∈ l1 ↔ p ∈ l2) : l1 = l2 :=
  ((List.perm_ext_iff_of_nodup (pairwise_lt_nodup h1) (pairwise_lt_nodup h2)).2 h).eq_of_pairwise
    (fun _ _ _ _ hab hba => absurd hba (Nat.lt_asymm hab)) h1 h2

theorem nodup_mem_of_perm_range {pages : List Nat} {s n : Nat} (h : pages.Perm ((List.range n).map (· + s))) :
    pages.Nodup ∧ ∀ p, p ∈ pages ↔ s ≤ p ∧ p < s + n := by
  rw [map_range_add] at h
  exact ⟨h.nodup_iff.mpr List.nodup_range', fun p => by rw [h.mem_iff, List.mem_range'_1]⟩

end Jamm
