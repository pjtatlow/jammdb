/-
`Node::split` (node.rs:282): where `splitIndexes` cuts and what `cutAt` makes of the cuts.  `sizes` and the entries
are tied by their lengths alone.  Of the chunks it is proved that none is empty, that they are fewer than the
entries and how many entries each has at least (`split_chunks_length_ge`); no lemma bounds the byte size of a chunk.
-/
import Jamm.Model.Split
import Jamm.Proofs.ListLemmas
namespace Jamm

theorem splitScan_spec (p : Params) (hdr eh thr : Nat) (l : List Nat) :
    ∀ (i cur count : Nat),
      (∀ j ∈ splitScan p hdr eh thr l i cur count,
          i < j ∧ j ≤ i + l.length ∧ i + p.minKeysPerNode ≤ j + count) ∧
      List.Pairwise (fun a b => a + p.minKeysPerNode ≤ b) (splitScan p hdr eh thr l i cur count) := by
  induction l with
  | nil => exact fun _ _ _ => ⟨fun _ h => (nomatch h), .nil⟩
  | cons s rest ih =>
    intro i cur count
    -- `count` = entries of the current chunk scanned so far: the chunk began at `i - count`, and the third
    -- conjunct puts the next cut at least `minKeysPerNode` behind that beginning
    have step : ∀ {c j : Nat}, (i + 1 < j ∧ j ≤ i + 1 + rest.length ∧ i + 1 + p.minKeysPerNode ≤ j + c) →
        c ≤ count + 1 → i < j ∧ j ≤ i + (s :: rest).length ∧ i + p.minKeysPerNode ≤ j + count := by
      intro c j ⟨h1, h2, h3⟩ hc
      rw [List.length_cons]
      exact ⟨by omega, by omega, by omega⟩
    rw [splitScan]
    split
    · rename_i hc
      obtain ⟨hm, hp⟩ := ih (i + 1) (hdr + (eh + s)) 0
      refine ⟨fun j hj => ?_, List.pairwise_cons.2 ⟨fun b hb => by have := (hm b hb).2.2; omega, hp⟩⟩
      rcases List.mem_cons.1 hj with rfl | hj
      · rw [List.length_cons]; omega
      · exact step (hm j hj) (Nat.zero_le _)
    · obtain ⟨hm, hp⟩ := ih (i + 1) (cur + (eh + s)) (count + 1)
      exact ⟨fun j hj => step (hm j hj) (Nat.le_refl _), hp⟩

/-- `Node::split` pushes a cut only when `count >= MIN_KEYS_PER_NODE` and scans `[..len - 2]` -/
theorem splitIndexes_spec (p : Params) (pagesize hdr elemHdr : Nat) (sizes : List Nat) :
    (∀ i ∈ splitIndexes p pagesize hdr elemHdr sizes, 0 < i ∧ p.minKeysPerNode ≤ i ∧ i + 2 ≤ sizes.length) ∧
    List.Pairwise (fun a b => a + p.minKeysPerNode ≤ b) (splitIndexes p pagesize hdr elemHdr sizes) := by
  unfold splitIndexes
  split
  · exact ⟨fun _ h => (nomatch h), List.Pairwise.nil⟩
  · obtain ⟨hm, hpw⟩ := splitScan_spec p hdr elemHdr (pagesize * p.fillNum / p.fillDen)
      (sizes.take (sizes.length - 2)) 0 hdr 0
    refine ⟨fun i hi => ?_, hpw⟩
    have := hm i hi
    have := List.length_take_le (sizes.length - 2) sizes
    omega

theorem Params.Valid.one_le_minKeys {p : Params} (h : p.Valid) : 1 ≤ p.minKeysPerNode := h.1

theorem flatten_cutAt {α : Type} (l : List α) (idx : List Nat) (off : Nat) :
    (cutAt l idx off).flatten = l := by
  induction idx generalizing l off with
  | nil => simp [cutAt]
  | cons i rest ih => simp [cutAt, ih]

set_option linter.unusedVariables false in
/-- `h` is not used: `flatten_cutAt` -/
theorem cutAt_flatten {α : Type} (l : List α) (idx : List Nat) (off : Nat)
    (h : List.Pairwise (· ≤ ·) (off :: idx)) : (cutAt l idx off).flatten = l :=
  flatten_cutAt l idx off

theorem cutAt_ne_nil {α : Type} (l : List α) (idx : List Nat) (off : Nat) : cutAt l idx off ≠ [] := by
  cases idx <;> simp [cutAt]

theorem length_cutAt {α : Type} (l : List α) (idx : List Nat) (off : Nat) :
    (cutAt l idx off).length = idx.length + 1 := by
  induction idx generalizing l off with
  | nil => rfl
  | cons i rest ih => rw [cutAt, List.length_cons, ih, List.length_cons]

theorem cutAt_chunks_ne_nil {α : Type} (idx : List Nat) : ∀ (off : Nat) (l : List α),
    (∀ i ∈ idx, off < i ∧ i < off + l.length) → idx.Pairwise (· < ·) → l ≠ [] → ∀ c ∈ cutAt l idx off, c ≠ [] := by
  induction idx with
  | nil =>
    intro off l _ _ hl c hc
    rw [cutAt, List.mem_singleton] at hc
    exact hc ▸ hl
  | cons i rest ih =>
    intro off l hr hp hl c hc
    obtain ⟨hoi, hie⟩ := hr i List.mem_cons_self
    obtain ⟨hpi, hpr⟩ := List.pairwise_cons.1 hp
    rw [cutAt, List.mem_cons] at hc
    rcases hc with rfl | hc
    · rw [ne_eq, List.take_eq_nil_iff]
      exact fun h => h.elim (by omega) hl
    · have hd : i + (l.drop (i - off)).length = off + l.length := by rw [List.length_drop]; omega
      exact ih i (l.drop (i - off)) (fun j hj => ⟨hpi j hj, hd ▸ (hr j (List.mem_cons_of_mem _ hj)).2⟩) hpr
        (by rw [ne_eq, List.drop_eq_nil_iff]; omega) c hc

theorem cutAt_length_ge {α : Type} (m n : Nat) (idx : List Nat) : ∀ (off : Nat) (l : List α), n ≤ l.length →
    (∀ i ∈ idx, off + m ≤ i ∧ i + n ≤ off + l.length) → idx.Pairwise (fun a b => a + m ≤ b) →
    ∃ cs c, cutAt l idx off = cs ++ [c] ∧ (∀ c' ∈ cs, m ≤ c'.length) ∧ n ≤ c.length := by
  induction idx with
  | nil => exact fun off l hl _ _ => ⟨[], l, rfl, fun _ h => (nomatch h), hl⟩
  | cons i rest ih =>
    intro off l hl hr hp
    obtain ⟨hoi, hie⟩ := hr i List.mem_cons_self
    obtain ⟨hpi, hpr⟩ := List.pairwise_cons.1 hp
    have hd : i + (l.drop (i - off)).length = off + l.length := by rw [List.length_drop]; omega
    obtain ⟨cs, c, e, hcs, hc⟩ := ih i (l.drop (i - off)) (by omega)
      (fun j hj => ⟨hpi j hj, hd ▸ (hr j (List.mem_cons_of_mem _ hj)).2⟩) hpr
    refine ⟨l.take (i - off) :: cs, c, by rw [cutAt, e, List.cons_append], List.forall_mem_cons.2 ⟨?_, hcs⟩, hc⟩
    rw [List.length_take]
    omega

/-- `Node::split` cuts only after `MIN_KEYS_PER_NODE` entries and scans `[..len - 2]`: two entries are all the last
chunk is sure to have -/
theorem split_chunks_length_ge {α : Type} (p : Params) (pagesize hdr elemHdr : Nat) (sizes : List Nat)
    (es : List α) (hl : es.length = sizes.length) (hes : 2 ≤ es.length) :
    ∃ cs c, cutAt es (splitIndexes p pagesize hdr elemHdr sizes) 0 = cs ++ [c] ∧
      (∀ c' ∈ cs, p.minKeysPerNode ≤ c'.length) ∧ 2 ≤ c.length := by
  obtain ⟨hr, hpw⟩ := splitIndexes_spec p pagesize hdr elemHdr sizes
  refine cutAt_length_ge p.minKeysPerNode 2 _ 0 es hes (fun i hi => ?_) hpw
  have := hr i hi
  omega

theorem mem_of_mem_cutAt {α : Type} {l : List α} {idx : List Nat} {off : Nat} {c : List α} {x : α}
    (hc : c ∈ cutAt l idx off) (hx : x ∈ c) : x ∈ l := by
  rw [← flatten_cutAt l idx off]
  exact List.mem_flatten.mpr ⟨c, hc, hx⟩

theorem mem_cutAt_nil {α : Type} (idx : List Nat) (off : Nat) :
    ∀ c ∈ cutAt ([] : List α) idx off, c = [] := by
  intro c hc
  have h := flatten_cutAt ([] : List α) idx off
  rw [List.flatten_eq_nil_iff] at h
  exact h c hc

theorem cutAt_head {α : Type} (a : α) (l' : List α) (idx : List Nat) (hpos : ∀ i ∈ idx, 0 < i) :
    ∃ r cs, cutAt (a :: l') idx 0 = (a :: r) :: cs ∧ (∀ q ∈ r, q ∈ l') ∧ ∀ c ∈ cs, ∀ q ∈ c, q ∈ l' := by
  cases idx with
  | nil =>
    refine ⟨l', [], by simp [cutAt], fun q hq => hq, ?_⟩
    intro c hc; cases hc
  | cons i rest =>
    have hi : 0 < i := hpos i List.mem_cons_self
    obtain ⟨j, rfl⟩ : ∃ j, i = j + 1 := ⟨i - 1, by omega⟩
    refine ⟨l'.take j, cutAt (l'.drop j) rest (j + 1), by simp [cutAt], ?_, ?_⟩
    · intro q hq; exact List.mem_of_mem_take hq
    · intro c hc q hq
      exact List.mem_of_mem_drop (mem_of_mem_cutAt hc hq)

/-- the measure of `spillRoot_done`: cuts are distinct and lie in `[1, len - 2]`, so there are at most `len - 2` -/
theorem split_chunks_count {α : Type} (p : Params) (h1 : 1 ≤ p.minKeysPerNode)
    (pagesize hdr elemHdr : Nat) (sizes : List Nat) (es : List α) (hl : es.length = sizes.length)
    (hes : 2 ≤ es.length) :
    (cutAt es (splitIndexes p pagesize hdr elemHdr sizes) 0).length + 1 ≤ es.length := by
  obtain ⟨hr, hpw⟩ := splitIndexes_spec p pagesize hdr elemHdr sizes
  have := pairwise_lt_length_le (a := 1) (N := es.length - 1) (hpw.imp fun h => by omega)
    (fun i hi => by have := hr i hi; omega) (by omega)
  rw [length_cutAt]
  omega

theorem split_chunks_cases {α : Type} (p : Params) (h1 : 1 ≤ p.minKeysPerNode) (pagesize hdr elemHdr : Nat)
    (sizes : List Nat) (es : List α) (hl : es.length = sizes.length) :
    (es = [] ∧ cutAt es (splitIndexes p pagesize hdr elemHdr sizes) 0 = [[]]) ∨
    (∀ c ∈ cutAt es (splitIndexes p pagesize hdr elemHdr sizes) 0, c ≠ []) := by
  cases es with
  | nil =>
    left
    have : splitIndexes p pagesize hdr elemHdr sizes = [] := by
      rw [splitIndexes, if_pos (.inl (by rw [← hl]; exact Nat.zero_le _))]
    rw [this]
    exact ⟨rfl, rfl⟩
  | cons a rest =>
    right
    obtain ⟨hr, hpw⟩ := splitIndexes_spec p pagesize hdr elemHdr sizes
    exact cutAt_chunks_ne_nil _ 0 _ (fun i hi => by have := hr i hi; omega) (hpw.imp fun h => by omega)
      (List.cons_ne_nil _ _)

end Jamm
