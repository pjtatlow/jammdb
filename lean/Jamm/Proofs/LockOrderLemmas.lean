/-
The five-lock model: a system whose thread programs all respect the lock order (`Ordered`) never deadlocks, for any
number of threads, any schedule and both admission policies of the rwlock.  The argument is the usual one for ordered
locking, adapted to a writer-preferring rwlock: if nobody can move, every unfinished thread waits for a lock; whoever is
in its way holds something, hence is unfinished, hence waits for a lock ranked strictly above everything it holds — in
particular above the lock the first thread waits for.  A reader that is blocked only by a *waiting* writer is blocked,
through that writer, by whoever holds M.  So the ranks of the wanted locks would grow for ever.
-/
import Jamm.Model.LockOrder
import Jamm.Proofs.ListLemmas

namespace Jamm.LockOrder

theorem Lk.rank_lt_five (l : Lk) : l.rank < 5 := by cases l <;> decide

theorem Held.isNone_iff (h : Held) : h.isNone = true ↔ h = .none := by
  obtain ⟨ex, rd⟩ := h
  cases ex <;> cases rd <;> simp [Held.isNone, Held.none]

theorem Held.has_none (l : Lk) : Held.none.has l = false := by
  cases l <;> rfl

theorem Held.below_has (h : Held) (l k : Lk) (hb : h.below l = true) (hk : h.has k = true) :
    k.rank < l.rank := by
  simp only [Held.below, Bool.and_eq_true, List.all_eq_true, decide_eq_true_eq, Bool.or_eq_true,
    Bool.not_eq_true'] at hb
  simp only [Held.has, Bool.or_eq_true, List.contains_iff_mem, Bool.and_eq_true, beq_iff_eq] at hk
  rcases hk with hk | ⟨rfl, hr⟩
  · exact hb.1 k hk
  · rcases hb.2 with h0 | h0
    · rw [hr] at h0; cases h0
    · exact h0

theorem Held.below_of_ok {h : Held} {a : Act} {l : Lk} (ho : h.ok a = true) (hw : a.want = some l) :
    h.below l = true := by
  cases a <;> cases hw <;> exact ho

theorem orderedFrom_cons {h : Held} {a : Act} {p : List Act} :
    OrderedFrom h (a :: p) = true ↔ h.ok a = true ∧ OrderedFrom (h.after a) p = true := by
  rw [OrderedFrom, Bool.and_eq_true]

/-- `OrderedFrom` with the final holdings as a parameter, so that pieces of a program compose (`seg_append`) -/
def Seg (h : Held) : List Act → Held → Bool
  | [], h' => h == h'
  | a :: p, h' => h.ok a && Seg (h.after a) p h'

theorem orderedFrom_eq_seg (h : Held) (p : List Act) : OrderedFrom h p = Seg h p .none := by
  induction p generalizing h with
  | nil => rw [OrderedFrom, Seg, Bool.eq_iff_iff, beq_iff_eq]; exact h.isNone_iff
  | cons a p ih => simp only [OrderedFrom, Seg, ih]

theorem seg_append {h h' h'' : Held} {p q : List Act} (hp : Seg h p h' = true) (hq : Seg h' q h'' = true) :
    Seg h (p ++ q) h'' = true := by
  induction p generalizing h with
  | nil => simp only [Seg, beq_iff_eq] at hp; subst hp; exact hq
  | cons a p ih =>
    simp only [Seg, Bool.and_eq_true, List.cons_append] at hp ⊢
    exact ⟨hp.1, ih hp.2⟩

theorem seg_flatMap {α : Type} {h : Held} (f : α → List Act) :
    ∀ l : List α, (∀ x ∈ l, Seg h (f x) h = true) → Seg h (l.flatMap f) h = true
  | [], _ => by simp [Seg]
  | x :: l, hl => by
    rw [List.flatMap_cons]
    exact seg_append (hl x List.mem_cons_self) (seg_flatMap f l fun y hy => hl y (List.mem_cons_of_mem _ hy))

theorem ordered_flatMap {κ : Type} (prog : κ → List Act) (hprog : ∀ k, Ordered (prog k) = true)
    (sc : List κ) : Ordered (sc.flatMap prog) = true := by
  rw [Ordered, orderedFrom_eq_seg]
  exact seg_flatMap prog sc fun k _ => by rw [← orderedFrom_eq_seg]; exact hprog k

/-- what a transaction holds between its begin and its drop -/
def txHeld (writer : Bool) : Held := if writer then ⟨[.F], false⟩ else ⟨[], true⟩

/-- every commit step gives back what it took (`hc`), so a commit that returns early, after whole steps, holds what it
held -/
theorem program_ordered (T : Tables)
    (hb : ∀ w, Seg .none (beginActs w T.mlocks T.begin) (txHeld w) = true)
    (hc : ∀ g r p : Bool, ∀ st ∈ T.commit,
      Seg (txHeld true) (commitAct ⟨g, r, p, none⟩ T.resize T.mlocks st) (txHeld true) = true)
    (hd : ∀ w, Seg (txHeld w) (dropActs w T.drop) .none = true) (k : Kind) :
    Ordered (program T k) = true := by
  rw [Ordered, orderedFrom_eq_seg]
  match k with
  | .read => exact seg_append (hb false) (hd false)
  | .write none => exact seg_append (hb true) (hd true)
  | .write (some ⟨g, r, p, n⟩) =>
    -- `commitActs` is `flatMap (commitAct …)` over the commit steps, all of them or (`stopAfter = some k`) the first `k`
    refine seg_append (seg_append (hb true) (seg_flatMap _ _ fun st hm => ?_)) (hd true)
    have : commitAct ⟨g, r, p, n⟩ T.resize T.mlocks st = commitAct ⟨g, r, p, none⟩ T.resize T.mlocks st := by
      cases st <;> rfl
    rw [this]
    refine hc g r p st ?_
    split at hm
    · exact hm
    · exact List.mem_of_mem_take hm

namespace Sys

theorem ready_cons (s : Sys) (a : Act) (p : List Act) (h : Held) : s.ready ⟨a :: p, h⟩ = s.guard a := rfl

theorem guard_acq (s : Sys) (l : Lk) :
    s.guard (.acq l) = true ↔ s.exHeld l = false ∧ (l = .M → s.rdHeld = false) := by
  simp only [Sys.guard, Bool.and_eq_true, Bool.not_eq_true', Bool.and_eq_false_iff, beq_eq_false_iff_ne, ne_eq]
  exact and_congr_right fun _ => Decidable.imp_iff_not_or.symm

theorem guard_acq_false (s : Sys) (l : Lk) :
    s.guard (.acq l) = false ↔ s.exHeld l = true ∨ (l = .M ∧ s.rdHeld = true) := by
  simp only [Sys.guard, Bool.and_eq_false_iff, Bool.not_eq_false', Bool.and_eq_true, beq_iff_eq]

theorem guard_acqRead (s : Sys) :
    s.guard .acqRead = true ↔ s.exHeld .M = false ∧ (s.admit = true ∨ s.writerWaiting = false) := by
  simp only [Sys.guard, Bool.and_eq_true, Bool.not_eq_true', Bool.or_eq_true]

theorem guard_acqRead_false (s : Sys) :
    s.guard .acqRead = false ↔ s.exHeld .M = true ∨ (s.admit = false ∧ s.writerWaiting = true) := by
  simp only [Sys.guard, Bool.and_eq_false_iff, Bool.not_eq_false', Bool.or_eq_false_iff]

end Sys

theorem Sys.enabled_eq (s : Sys) (i : Nat) (t : Thread) (ht : s.threads[i]? = some t) :
    s.enabled i = s.ready t := by
  unfold Sys.enabled; rw [ht]

theorem Sys.enabled_of_mem (s : Sys) (t : Thread) (ht : t ∈ s.threads) (hr : s.ready t = true) :
    ∃ i, s.enabled i = true := by
  obtain ⟨i, hi⟩ := List.mem_iff_getElem?.mp ht
  exact ⟨i, by rw [s.enabled_eq i t hi, hr]⟩

theorem Sys.enabled_lt (s : Sys) (i : Nat) (h : s.enabled i = true) : i < s.threads.length := by
  unfold Sys.enabled at h
  cases ht : s.threads[i]? with
  | none => rw [ht] at h; cases h
  | some t => exact (List.getElem?_eq_some_iff.mp ht).1

theorem Sys.stuck_iff (s : Sys) :
    s.stuck = true ↔ s.allFinished = false ∧ ∀ i, s.enabled i = false := by
  simp only [Sys.stuck, Bool.and_eq_true, Bool.not_eq_true', List.all_eq_true, List.mem_range]
  constructor
  · rintro ⟨h1, h2⟩
    refine ⟨h1, fun i => ?_⟩
    cases he : s.enabled i with
    | false => rfl
    | true => rw [h2 i (s.enabled_lt i he)] at he; cases he
  · rintro ⟨h1, h2⟩
    exact ⟨h1, fun i _ => h2 i⟩

theorem Sys.exHolders_eq_zero (s : Sys) (l : Lk) (h : s.exHeld l = false) : s.exHolders l = 0 :=
  filter_length_eq_zero h

theorem Sys.readers_eq_zero (s : Sys) (h : s.rdHeld = false) : s.readers = 0 :=
  filter_length_eq_zero h

theorem Sys.step_threads (s : Sys) (i : Nat) (t : Thread) (ht : s.threads[i]? = some t) :
    (s.step i).threads = s.threads.set i t.next := by
  unfold Sys.step; rw [ht]

theorem Sys.step_admit (s : Sys) (i : Nat) : (s.step i).admit = s.admit := by
  unfold Sys.step; cases s.threads[i]? <;> rfl

theorem Sys.step_of_enabled (s : Sys) (i : Nat) (he : s.enabled i = true) :
    ∃ a p h, s.threads[i]? = some ⟨a :: p, h⟩ ∧ s.guard a = true ∧
      (s.step i).threads = s.threads.set i ⟨p, h.after a⟩ := by
  unfold Sys.enabled at he
  cases ht : s.threads[i]? with
  | none => rw [ht] at he; cases he
  | some t =>
    rw [ht] at he
    obtain ⟨prog, h⟩ := t
    cases prog with
    | nil => simp [Sys.ready] at he
    | cons a p =>
      refine ⟨a, p, h, rfl, s.ready_cons a p h ▸ he, ?_⟩
      rw [s.step_threads i _ ht]; rfl

theorem Sys.run_induction {P : Sys → Prop} (hstep : ∀ s i, P s → s.enabled i = true → P (s.step i)) :
    ∀ (sched : List Nat) (s : Sys), P s → P (s.run sched)
  | [], _, h => h
  | i :: rest, s, h => by
    unfold Sys.run
    split
    · next he => exact run_induction hstep rest _ (hstep s i h he)
    · exact run_induction hstep rest s h

/-! The two invariants do not need each other: deadlock freedom and termination rest on the discipline alone; exclusion
is a property of the guards and holds whatever the programs are. -/

def Sys.Disciplined (s : Sys) : Prop := ∀ t ∈ s.threads, OrderedFrom t.held t.prog = true

theorem disciplined_init (progs : List (List Act)) (admit : Bool) (h : ∀ p ∈ progs, Ordered p = true) :
    (Sys.init progs admit).Disciplined := by
  intro t ht
  obtain ⟨p, hp, rfl⟩ := List.mem_map.1 ht
  exact h p hp

theorem disciplined_step (s : Sys) (i : Nat) (hs : s.Disciplined) (he : s.enabled i = true) :
    (s.step i).Disciplined := by
  obtain ⟨a, p, h, ht, _, hstep⟩ := s.step_of_enabled i he
  intro t' ht'
  rw [hstep] at ht'
  rcases List.mem_or_eq_of_mem_set ht' with hm | rfl
  · exact hs t' hm
  · exact (orderedFrom_cons.1 (hs _ (List.mem_of_getElem? ht))).2

theorem Sys.Disciplined.run {s : Sys} (hs : s.Disciplined) (sched : List Nat) : (s.run sched).Disciplined :=
  Sys.run_induction disciplined_step sched s hs

theorem disciplined_reachable (progs : List (List Act)) (admit : Bool) (h : ∀ p ∈ progs, Ordered p = true)
    (sched : List Nat) : ((Sys.init progs admit).run sched).Disciplined :=
  (disciplined_init progs admit h).run sched

theorem Held.ex_of_after (h : Held) (a : Act) (l : Lk) (hl : (h.after a).ex.contains l = true) :
    h.ex.contains l = true ∨ a = .acq l := by
  cases a with
  | acq k =>
    simp only [Held.after, List.contains_iff_mem, List.mem_cons] at hl ⊢
    rcases hl with rfl | hl
    · right; rfl
    · left; exact hl
  | acqRead => left; exact hl
  | rel k =>
    simp only [Held.after, List.contains_iff_mem] at hl ⊢
    left; exact List.mem_of_mem_erase hl
  | relRead => left; exact hl

theorem Held.rd_of_after (h : Held) (a : Act) (hl : (h.after a).rd = true) :
    h.rd = true ∨ a = .acqRead := by
  cases a <;> simp_all [Held.after]

theorem Sys.exHolders_step_le (s : Sys) {i : Nat} {a : Act} {p : List Act} {h : Held} (l : Lk)
    (ht : s.threads[i]? = some ⟨a :: p, h⟩) (hne : a ≠ .acq l) : (s.step i).exHolders l ≤ s.exHolders l := by
  unfold Sys.exHolders; rw [s.step_threads i _ ht]
  exact filter_set_length_le _ _ i _ _ ht fun hc => (Held.ex_of_after h a l hc).resolve_right hne

theorem Sys.readers_step_le (s : Sys) {i : Nat} {a : Act} {p : List Act} {h : Held}
    (ht : s.threads[i]? = some ⟨a :: p, h⟩) (hne : a ≠ .acqRead) : (s.step i).readers ≤ s.readers := by
  unfold Sys.readers; rw [s.step_threads i _ ht]
  exact filter_set_length_le _ _ i _ _ ht fun hc => (Held.rd_of_after h a hc).resolve_right hne

structure Excl (s : Sys) : Prop where
  excl : ∀ l, s.exHolders l ≤ 1
  modes : s.exHolders .M = 0 ∨ s.readers = 0

theorem excl_init (progs : List (List Act)) (admit : Bool) : Excl (Sys.init progs admit) := by
  have hex : ∀ l, (Sys.init progs admit).exHolders l = 0 := fun l =>
    Sys.exHolders_eq_zero _ l (List.any_eq_false.2 fun t ht => by
      obtain ⟨p, _, rfl⟩ := List.mem_map.1 ht
      simp [Held.none])
  exact ⟨fun l => by rw [hex l]; exact Nat.zero_le _, .inl (hex .M)⟩

theorem excl_step (s : Sys) (i : Nat) (hs : Excl s) (he : s.enabled i = true) : Excl (s.step i) := by
  obtain ⟨a, p, h, ht, hg, hstep⟩ := s.step_of_enabled i he
  -- only an acquisition can raise a holder count (`Sys.exHolders_step_le`, `Sys.readers_step_le`); its guard says the
  -- count it raises was 0, and for M also the count of the other mode
  refine ⟨fun l => ?_, ?_⟩
  · by_cases hl : a = .acq l
    · -- the guard says nobody held `l`
      subst hl
      unfold Sys.exHolders; rw [hstep]
      exact filter_set_length_le_one _ _ i _ _ ht ((s.guard_acq l).1 hg).1
    · exact Nat.le_trans (s.exHolders_step_le l ht hl) (hs.excl l)
  · by_cases hM : a = .acq .M
    · -- M-write is granted only when nobody reads
      subst hM
      have := s.readers_step_le ht nofun
      rw [s.readers_eq_zero (((s.guard_acq .M).1 hg).2 rfl)] at this
      exact .inr (Nat.le_zero.1 this)
    · by_cases hR : a = .acqRead
      · -- M-read is granted only when nobody holds M-write
        subst hR
        have := s.exHolders_step_le .M ht nofun
        rw [s.exHolders_eq_zero .M (s.guard_acqRead.1 hg).1] at this
        exact .inl (Nat.le_zero.1 this)
      · rcases hs.modes with h0 | h0
        · exact .inl (Nat.le_zero.1 (h0 ▸ s.exHolders_step_le .M ht hM))
        · exact .inr (Nat.le_zero.1 (h0 ▸ s.readers_step_le ht hR))

theorem Excl.run {s : Sys} (hs : Excl s) (sched : List Nat) : Excl (s.run sched) :=
  Sys.run_induction excl_step sched s hs

theorem excl_reachable (progs : List (List Act)) (admit : Bool) (sched : List Nat) :
    Excl ((Sys.init progs admit).run sched) :=
  (excl_init progs admit).run sched

theorem Sys.guard_of_want_none (s : Sys) {a : Act} (h : a.want = none) : s.guard a = true := by
  cases a with
  | acq _ | acqRead => cases h
  | rel _ | relRead => rfl

theorem Sys.wants_of_not_ready (s : Sys) (t : Thread) (hr : s.ready t = false) :
    t.finished = true ∨ ∃ l, t.wants = some l := by
  obtain ⟨_ | ⟨a, p⟩, h⟩ := t
  · exact .inl rfl
  · rw [Sys.ready_cons] at hr
    cases hw : a.want with
    | none => cases (s.guard_of_want_none hw).symm.trans hr
    | some l => exact .inr ⟨l, hw⟩

theorem Sys.holder_of_guard_acq (s : Sys) (k : Lk) (hg : s.guard (.acq k) = false) :
    ∃ t ∈ s.threads, t.held.has k = true := by
  rcases (s.guard_acq_false k).1 hg with hex | ⟨rfl, hrd⟩
  · obtain ⟨t, ht, h⟩ := List.any_eq_true.mp hex
    exact ⟨t, ht, by simp only [Held.has, h, Bool.true_or]⟩
  · obtain ⟨t, ht, h⟩ := List.any_eq_true.mp hrd
    exact ⟨t, ht, by simp [Held.has, h]⟩

/-- if nobody can move, a thread waiting for `l` is (possibly through a waiting writer) blocked by a
thread that holds `l` -/
theorem blocked_holder (s : Sys) (hno : ∀ t ∈ s.threads, s.ready t = false)
    (t : Thread) (ht : t ∈ s.threads) (l : Lk) (hw : t.wants = some l) :
    ∃ t1 ∈ s.threads, t1.held.has l = true := by
  have hr := hno t ht
  obtain ⟨_ | ⟨a, p⟩, h⟩ := t
  · cases hw
  · rw [Sys.ready_cons] at hr
    cases a with
    | acq k => cases hw; exact s.holder_of_guard_acq _ hr
    | acqRead =>
      cases hw
      rcases s.guard_acqRead_false.1 hr with hr | ⟨_, hr⟩
      · exact s.holder_of_guard_acq .M ((s.guard_acq_false .M).2 (.inl hr))
      · -- refused only because a writer waits: that writer cannot move either
        obtain ⟨⟨wprog, wh⟩, hwm, hww⟩ := List.any_eq_true.mp hr
        -- `waitsWrite` forces `wprog = .acq .M :: _` (for every other shape `hww` is `false = true`), and then
        -- `ready` is the guard of that acquisition (`Sys.ready_cons`)
        match wprog, hww, hno _ hwm with
        | .acq .M :: _, _, hwr => exact s.holder_of_guard_acq .M hwr
    | rel k => cases hw
    | relRead => cases hw

theorem holder_wants_higher (s : Sys) (t : Thread) (ho : OrderedFrom t.held t.prog = true)
    (hr : s.ready t = false) (l : Lk) (hl : t.held.has l = true) :
    ∃ l1, t.wants = some l1 ∧ l.rank < l1.rank := by
  obtain ⟨_ | ⟨a, p⟩, h⟩ := t
  · -- a finished thread holds nothing
    rw [(Held.isNone_iff h).1 ho, Held.has_none] at hl; cases hl
  · rw [Sys.ready_cons] at hr
    cases hw : a.want with
    | none => cases (s.guard_of_want_none hw).symm.trans hr
    | some l1 => exact ⟨l1, hw, Held.below_has h l1 l (Held.below_of_ok (orderedFrom_cons.1 ho).1 hw) hl⟩

/-- if nobody can move, nobody waits for a lock: the ranks of the wanted locks would grow for ever -/
theorem no_waiter (s : Sys) (hs : s.Disciplined) (hno : ∀ t ∈ s.threads, s.ready t = false)
    (t : Thread) (ht : t ∈ s.threads) (l : Lk) (hw : t.wants = some l) : False := by
  obtain ⟨t1, ht1, hl1⟩ := blocked_holder s hno t ht l hw
  obtain ⟨l1, hw1, hlt⟩ := holder_wants_higher s t1 (hs t1 ht1) (hno t1 ht1) l hl1
  exact no_waiter s hs hno t1 ht1 l1 hw1
termination_by 5 - l.rank
decreasing_by have := Lk.rank_lt_five l1; omega

theorem Sys.deadlock_free (s : Sys) (hs : s.Disciplined) (hnf : s.allFinished = false) :
    ∃ i, s.enabled i = true := by
  refine Classical.byContradiction fun hne => ?_
  have hno : ∀ t ∈ s.threads, s.ready t = false := fun t ht =>
    Bool.eq_false_iff.2 fun hr => hne (s.enabled_of_mem t ht hr)
  obtain ⟨t, ht, htf⟩ := List.all_eq_false.1 hnf
  rcases s.wants_of_not_ready t (hno t ht) with hf | ⟨l, hl⟩
  · exact htf hf
  · exact no_waiter s hs hno t ht l hl

theorem deadlock_free_ordered (progs : List (List Act)) (admit : Bool)
    (h : ∀ p ∈ progs, Ordered p = true) (sched : List Nat)
    (hnf : ((Sys.init progs admit).run sched).allFinished = false) :
    ∃ i, ((Sys.init progs admit).run sched).enabled i = true :=
  Sys.deadlock_free _ (disciplined_reachable progs admit h sched) hnf

theorem not_stuck_ordered (progs : List (List Act)) (admit : Bool)
    (h : ∀ p ∈ progs, Ordered p = true) (sched : List Nat) :
    ((Sys.init progs admit).run sched).stuck = false := by
  cases hst : ((Sys.init progs admit).run sched).stuck with
  | false => rfl
  | true =>
    obtain ⟨h1, h2⟩ := (Sys.stuck_iff _).mp hst
    obtain ⟨i, hi⟩ := deadlock_free_ordered progs admit h sched h1
    rw [h2 i] at hi; cases hi

theorem Sys.work_decreases (s : Sys) (i : Nat) (he : s.enabled i = true) : (s.step i).work < s.work := by
  obtain ⟨a, p, h, ht, _, hstep⟩ := s.step_of_enabled i he
  unfold Sys.work; rw [hstep]
  exact Jamm.sum_map_set_lt _ s.threads i _ _ ht (by simp)

theorem Sys.finished_iff_no_work (s : Sys) : s.allFinished = true ↔ s.work = 0 := by
  unfold Sys.allFinished Sys.work
  rw [List.sum_eq_zero_iff_forall_eq_nat, List.forall_mem_map, List.all_eq_true]
  exact forall₂_congr fun t _ => by rw [Thread.finished, List.isEmpty_iff, List.length_eq_zero_iff]

theorem Sys.run_append (a b : List Nat) : ∀ s : Sys, s.run (a ++ b) = (s.run a).run b := by
  induction a with
  | nil => intro s; rfl
  | cons i rest ih =>
    intro s
    simp only [List.cons_append, Sys.run]
    split <;> exact ih _

theorem Sys.step_length (s : Sys) (i : Nat) : (s.step i).threads.length = s.threads.length := by
  unfold Sys.step
  cases s.threads[i]? <;> simp

theorem Sys.run_length (sched : List Nat) (s : Sys) : (s.run sched).threads.length = s.threads.length :=
  Sys.run_induction (P := fun s' => s'.threads.length = s.threads.length)
    (fun s' i h _ => (s'.step_length i).trans h) sched s rfl

theorem Sys.run_work_le (sched : List Nat) (s : Sys) : (s.run sched).work ≤ s.work :=
  Sys.run_induction (P := fun s' => s'.work ≤ s.work)
    (fun s' i h he => Nat.le_trans (Nat.le_of_lt (s'.work_decreases i he)) h) sched s (Nat.le_refl _)

/-- the thread that can move, or one scheduled before it, moves -/
theorem Sys.run_work_lt (sched : List Nat) :
    ∀ (s : Sys) (i : Nat), i ∈ sched → s.enabled i = true → (s.run sched).work < s.work := by
  induction sched with
  | nil => intro s i hi; cases hi
  | cons j rest ih =>
    intro s i hi he
    simp only [Sys.run]
    split
    · next hej => exact Nat.lt_of_le_of_lt (Sys.run_work_le rest _) (s.work_decreases j hej)
    · next hej =>
      rcases List.mem_cons.mp hi with rfl | hi
      · exact absurd he hej
      · exact ih s i hi he

theorem Sys.round_work_lt (s : Sys) (hs : s.Disciplined) (hf : s.allFinished = false) :
    (s.run (List.range s.threads.length)).work < s.work := by
  obtain ⟨i, hi⟩ := s.deadlock_free hs hf
  exact Sys.run_work_lt _ s i (List.mem_range.mpr (s.enabled_lt i hi)) hi

def rounds (n : Nat) : Nat → List Nat
  | 0 => []
  | k + 1 => List.range n ++ rounds n k

theorem Sys.round_robin_finishes : ∀ (k : Nat) (s : Sys), s.Disciplined → s.work ≤ k →
    (s.run (rounds s.threads.length k)).allFinished = true := by
  intro k
  induction k with
  | zero =>
    intro s _ hw
    exact s.finished_iff_no_work.mpr (Nat.le_zero.1 hw)
  | succ k ih =>
    intro s hs hw
    have hwork : (s.run (List.range s.threads.length)).work ≤ k := by
      cases hf : s.allFinished with
      | true =>
        have h0 := s.finished_iff_no_work.mp hf
        have := Sys.run_work_le (List.range s.threads.length) s
        omega
      | false =>
        have := s.round_work_lt hs hf
        omega
    have := ih _ (hs.run _) hwork
    rwa [Sys.run_length, ← Sys.run_append] at this

theorem can_finish_ordered (progs : List (List Act)) (admit : Bool)
    (h : ∀ p ∈ progs, Ordered p = true) (sched : List Nat) :
    ∃ more, ((Sys.init progs admit).run (sched ++ more)).allFinished = true :=
  ⟨_, by
    rw [Sys.run_append]
    exact Sys.round_robin_finishes _ _ (disciplined_reachable progs admit h sched) (Nat.le_refl _)⟩

theorem round_robin_finishes_ordered (progs : List (List Act)) (admit : Bool)
    (h : ∀ p ∈ progs, Ordered p = true) :
    ((Sys.init progs admit).run
      (rounds progs.length (Sys.init progs admit).work)).allFinished = true := by
  have := Sys.round_robin_finishes _ _ (disciplined_init progs admit h) (Nat.le_refl _)
  simpa [Sys.init] using this

theorem ofScripts_ordered {κ : Type} (prog : κ → List Act) (hprog : ∀ k, Ordered (prog k) = true)
    (scripts : List (List κ)) : ∀ p ∈ scripts.map (fun sc => sc.flatMap prog), Ordered p = true := by
  intro p hp
  obtain ⟨sc, _, rfl⟩ := List.mem_map.mp hp
  exact ordered_flatMap prog hprog sc

end Jamm.LockOrder
