/-
The specification's sorted association lists: `Sorted` is `List.Pairwise`, and entries wholly below or above a key do
not matter to `lookup`, `insert`, `erase` at that key.  `lookup_insert`, `lookup_erase`, `sorted_insert`, `sorted_erase`
are the map laws (C01); `fromKey_append`, `predOf_append` the same for the seek functions.  `lookup` and `erase` test `a = k`, `insert` tests `k = a`
(Model/Spec.lean): hence the `eq_comm` / `Ne.symm` in the proofs.
-/
import Jamm.Model.Spec
import Jamm.Proofs.ListLemmas
open Std

namespace Jamm

namespace Spec

section
variable {K : Type} [DecidableEq K] {α : Type}

theorem lookup_none_of_not_mem {key : K} {l : List (K × α)} (h : key ∉ l.map (·.1)) :
    lookup key l = none := by
  induction l with
  | nil => rfl
  | cons hd tl ih =>
    obtain ⟨a, y⟩ := hd
    simp only [List.map_cons, List.mem_cons, not_or] at h
    simp only [lookup, if_neg (Ne.symm h.1)]
    exact ih h.2

theorem lookup_cons_self (k : K) (x : α) (l : List (K × α)) : lookup k ((k, x) :: l) = some x :=
  if_pos rfl

theorem erase_eq_eraseP (k : K) (l : List (K × α)) : erase k l = l.eraseP (fun e => e.1 = k) := by
  induction l with
  | nil => rfl
  | cons hd tl ih =>
    simp only [erase, List.eraseP_cons, ih]
    by_cases h : hd.1 = k <;> simp [h]

theorem mem_of_mem_erase {k : K} {l : List (K × α)} {e : K × α} (h : e ∈ erase k l) : e ∈ l :=
  List.mem_of_mem_eraseP (erase_eq_eraseP k l ▸ h)

variable [Ord K]

theorem eq_or_mem_of_mem_insert {k : K} {x : α} {l : List (K × α)} {e : K × α} (h : e ∈ insert k x l) :
    e = (k, x) ∨ e ∈ l := by
  induction l with
  | nil => exact Or.inl (List.mem_singleton.mp h)
  | cons hd tl ih =>
    obtain ⟨a, y⟩ := hd
    simp only [insert] at h
    split at h
    · exact (List.mem_cons.mp h).imp_right (List.mem_cons_of_mem _)
    · split at h
      · exact List.mem_cons.mp h
      · rcases List.mem_cons.mp h with h | h
        · exact Or.inr (h ▸ List.mem_cons_self)
        · exact (ih h).imp_right (List.mem_cons_of_mem _)

theorem lookup_insert (k k' : K) (x : α) (l : List (K × α)) :
    lookup k' (insert k x l) = if k' = k then some x else lookup k' l := by
  induction l with
  | nil => simp only [insert, lookup, eq_comm]
  | cons hd tl ih =>
    obtain ⟨a, y⟩ := hd
    simp only [insert]
    split
    · next h =>
      subst h
      by_cases hk : k = k' <;> simp [lookup, hk, eq_comm]
    · split
      · simp only [lookup, eq_comm]
      · next hne _ =>
        simp only [lookup, ih]
        by_cases ha : a = k'
        · subst ha; simp [Ne.symm hne]
        · simp [ha]

end

section
variable {K : Type} [Ord K] {α : Type}

theorem sorted_cons_cons {a b : K} {x y : α} {rest : List (K × α)} :
    Sorted ((a, x) :: (b, y) :: rest) ↔ klt a b = true ∧ Sorted ((b, y) :: rest) :=
  Iff.rfl

theorem fromKey_append {key : K} {A B : List (K × α)} (hA : ∀ a ∈ A, klt a.1 key = true)
    (hB : ∀ b ∈ B.head?, klt b.1 key = false) : fromKey (A ++ B) key = B :=
  dropWhile_append_eq_right hA hB

theorem predOf_append {key : K} {A B : List (K × α)} (hA : ∀ a ∈ A, klt a.1 key = true)
    (hB : ∀ b ∈ B.head?, klt b.1 key = false) : predOf (A ++ B) key = A.getLast? := by
  rw [predOf, takeWhile_append_eq_left hA hB]

end

variable {K : Type} [Ord K] [TransOrd K] [LawfulEqOrd K] {α : Type}

section
omit [LawfulEqOrd K]

theorem sorted_iff_pairwise :
    ∀ {l : List (K × α)}, Sorted l ↔ l.Pairwise (fun a b => klt a.1 b.1 = true)
  | [] => ⟨fun _ => .nil, fun _ => trivial⟩
  | [_] => ⟨fun _ => List.pairwise_singleton _ _, fun _ => trivial⟩
  | (a, x) :: (b, y) :: rest => by
    rw [pairwise_cons_cons (R := fun a b : K × α => klt a.1 b.1 = true) klt_trans, sorted_cons_cons,
      sorted_iff_pairwise]

theorem sorted_cons {a : K} {x : α} {l : List (K × α)} :
    Sorted ((a, x) :: l) ↔ (∀ e ∈ l, klt a e.1 = true) ∧ Sorted l := by
  rw [sorted_iff_pairwise, sorted_iff_pairwise, List.pairwise_cons]

theorem sorted_append_iff {l₁ l₂ : List (K × α)} :
    Sorted (l₁ ++ l₂) ↔ Sorted l₁ ∧ Sorted l₂ ∧ ∀ a ∈ l₁, ∀ b ∈ l₂, klt a.1 b.1 = true := by
  rw [sorted_iff_pairwise, sorted_iff_pairwise, sorted_iff_pairwise, List.pairwise_append]

theorem fromKey_eq_filter {flat : List (K × α)} (hs : Sorted flat) (key : K) :
    fromKey flat key = flat.filter (fun e => kle key e.1) := by
  rw [fromKey, dropWhile_eq_filter ((sorted_iff_pairwise.mp hs).imp fun hab hb => klt_trans hab hb)]
  exact List.filter_congr fun e _ => kle_eq_not_klt.symm

variable [DecidableEq K]

theorem sorted_erase (k : K) (l : List (K × α)) (h : Sorted l) : Sorted (erase k l) := by
  rw [sorted_iff_pairwise] at h ⊢
  exact erase_eq_eraseP k l ▸ h.sublist List.eraseP_sublist

end

variable [DecidableEq K]

section
omit [TransOrd K]

theorem lookup_none_of_gt {a : K} {l : List (K × α)} (h : ∀ e ∈ l, klt a e.1 = true) :
    lookup a l = none := by
  apply lookup_none_of_not_mem
  intro hm
  obtain ⟨e, he, rfl⟩ := List.mem_map.mp hm
  exact klt_ne (h e he) rfl

theorem lookup_append_of_lt {key : K} {l₁ l₂ : List (K × α)}
    (h : ∀ e ∈ l₁, klt e.1 key = true) : lookup key (l₁ ++ l₂) = lookup key l₂ := by
  induction l₁ with
  | nil => rfl
  | cons hd tl ih =>
    obtain ⟨a, x⟩ := hd
    have ha : a ≠ key := klt_ne (h (a, x) List.mem_cons_self)
    simp only [List.cons_append, lookup, if_neg ha]
    exact ih (fun e he => h e (List.mem_cons_of_mem _ he))

theorem lookup_append_of_gt {key : K} {l₁ l₂ : List (K × α)}
    (h : ∀ e ∈ l₂, klt key e.1 = true) : lookup key (l₁ ++ l₂) = lookup key l₁ := by
  induction l₁ with
  | nil => exact lookup_none_of_gt h
  | cons hd tl ih =>
    obtain ⟨a, x⟩ := hd
    simp only [List.cons_append, lookup, ih]

theorem insert_of_gt {key : K} {x : α} {l : List (K × α)}
    (h : ∀ e ∈ l, klt key e.1 = true) : insert key x l = (key, x) :: l := by
  cases l with
  | nil => rfl
  | cons hd tl =>
    obtain ⟨a, y⟩ := hd
    have hlt := h (a, y) List.mem_cons_self
    simp only [insert, if_neg (klt_ne hlt), if_pos hlt]

theorem insert_append_of_gt {key : K} {x : α} {l₁ l₂ : List (K × α)}
    (h : ∀ e ∈ l₂, klt key e.1 = true) : insert key x (l₁ ++ l₂) = insert key x l₁ ++ l₂ := by
  induction l₁ with
  | nil => simp only [List.nil_append, insert_of_gt h, insert, List.cons_append]
  | cons hd tl ih =>
    obtain ⟨a, y⟩ := hd
    simp only [List.cons_append, insert, ih]
    split
    · rfl
    · split <;> rfl

theorem erase_append_of_lt {key : K} {l₁ l₂ : List (K × α)}
    (h : ∀ e ∈ l₁, klt e.1 key = true) : erase key (l₁ ++ l₂) = l₁ ++ erase key l₂ := by
  rw [erase_eq_eraseP, erase_eq_eraseP, List.eraseP_append_right]
  intro e he
  simpa using klt_ne (h e he)

theorem erase_of_gt {key : K} {l : List (K × α)}
    (h : ∀ e ∈ l, klt key e.1 = true) : erase key l = l := by
  rw [erase_eq_eraseP, List.eraseP_of_forall_not]
  intro e he
  simpa using (klt_ne (h e he)).symm

theorem erase_append_of_gt {key : K} {l₁ l₂ : List (K × α)}
    (h : ∀ e ∈ l₂, klt key e.1 = true) : erase key (l₁ ++ l₂) = erase key l₁ ++ l₂ := by
  induction l₁ with
  | nil => simp only [List.nil_append, erase_of_gt h, erase]
  | cons hd tl ih =>
    obtain ⟨a, y⟩ := hd
    simp only [List.cons_append, erase, ih]
    split <;> rfl

end

theorem sorted_insert (k : K) (x : α) (l : List (K × α)) (h : Sorted l) : Sorted (insert k x l) := by
  induction l with
  | nil => simp [insert, Sorted]
  | cons hd tl ih =>
    obtain ⟨a, y⟩ := hd
    rw [sorted_cons] at h
    simp only [insert]
    split
    · rename_i hka; subst hka; rw [sorted_cons]; exact h
    · split
      · rename_i hne hlt
        rw [sorted_cons]
        refine ⟨?_, sorted_cons.mpr h⟩
        intro e he
        rcases List.mem_cons.mp he with rfl | he
        · exact hlt
        · exact klt_trans hlt (h.1 e he)
      · rename_i hne hnlt
        rw [sorted_cons]
        refine ⟨?_, ih h.2⟩
        intro e he
        rcases eq_or_mem_of_mem_insert he with rfl | he
        · exact klt_of_not_klt_of_ne (by simpa using hnlt) hne
        · exact h.1 e he

theorem lookup_erase (k k' : K) (l : List (K × α)) (hs : Sorted l) :
    lookup k' (erase k l) = if k' = k then none else lookup k' l := by
  induction l with
  | nil => simp [erase, lookup]
  | cons hd tl ih =>
    obtain ⟨a, y⟩ := hd
    rw [sorted_cons] at hs
    simp only [erase]
    split
    · rename_i h; subst h
      simp only [lookup]
      split
      · -- `erase` removes the first match only: that no later entry has the key is what `Sorted` is needed for
        rename_i h; subst h; exact lookup_none_of_gt hs.1
      · rename_i h; simp [Ne.symm h]
    · rename_i h
      simp only [lookup, ih hs.2]
      split
      · rename_i h2; subst h2; simp [h]
      · rfl

theorem insert_append_of_lt {key : K} {x : α} {l₁ l₂ : List (K × α)}
    (h : ∀ e ∈ l₁, klt e.1 key = true) : insert key x (l₁ ++ l₂) = l₁ ++ insert key x l₂ := by
  induction l₁ with
  | nil => rfl
  | cons hd tl ih =>
    obtain ⟨a, y⟩ := hd
    have hlt := h (a, y) List.mem_cons_self
    have ha : key ≠ a := fun e => klt_ne hlt e.symm
    have hnlt : ¬ (klt key a = true) := by rw [klt_asymm hlt]; exact Bool.false_ne_true
    simp only [List.cons_append, insert, if_neg ha, if_neg hnlt]
    rw [ih (fun e he => h e (List.mem_cons_of_mem _ he))]

theorem lookup_of_mem {key : K} {x : α} {l : List (K × α)} (hs : Sorted l) (h : (key, x) ∈ l) :
    lookup key l = some x := by
  obtain ⟨s, t, rfl⟩ := List.append_of_mem h
  rw [lookup_append_of_lt fun e he => (sorted_append_iff.mp hs).2.2 e he _ List.mem_cons_self, lookup_cons_self]

end Spec

section
variable {K : Type} [Ord K] [TransOrd K]

theorem belowHi_down (hi : Spec.Bound K) (a b : K) (hab : klt a b = true)
    (hb : Spec.belowHi hi b = true) : Spec.belowHi hi a = true := by
  cases hi with
  | incl e => exact kle_of_klt (klt_of_klt_of_kle hab hb)
  | excl e => exact klt_trans hab hb
  | unbounded => rfl

variable [LawfulEqOrd K] [DecidableEq K]

theorem foldl_insert_eq_append {α : Type} (rest acc : List (K × α)) (h : Spec.Sorted (acc ++ rest)) :
    rest.foldl (fun a x => Spec.insert x.1 x.2 a) acc = acc ++ rest := by
  induction rest generalizing acc with
  | nil => simp only [List.foldl_nil, List.append_nil]
  | cons hd tl ih =>
    obtain ⟨k, x⟩ := hd
    have hlt : ∀ e ∈ acc, klt e.1 k = true :=
      fun e he => (Spec.sorted_append_iff.mp h).2.2 e he (k, x) List.mem_cons_self
    have hins : Spec.insert k x acc = acc ++ [(k, x)] := by
      have := Spec.insert_append_of_lt (x := x) (l₂ := []) hlt
      rw [List.append_nil] at this
      rw [this]
      rfl
    have h' : Spec.Sorted ((acc ++ [(k, x)]) ++ tl) := by
      rw [List.append_assoc]
      exact h
    simp only [List.foldl_cons]
    rw [hins, ih _ h', List.append_assoc]
    rfl

end

end Jamm
