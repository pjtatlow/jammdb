/-
Byte-level commit, the data writes.  A copy-on-write commit writes only the nodes on fresh pages of every bucket
(`writeFreshView`), then the free-list page (`cowCommitData`); the new state shares every other page with the previous
one.  These writes store everything of the new state but its header and change no byte outside the runs they write;
bytes outside those runs are bytes the old state keeps.  `commitData` of the model is the case "every page fresh".
-/
import Jamm.Proofs.CommitFileLemmas
namespace Jamm

section
variable (L : Layout) (pagesize : Nat)

def Opened.freshRuns (fresh : Nat → Bool) (ov : Nat → Nat) (st : Opened) : List (Nat × Nat) :=
  (st.hdr.freelistPage, st.flOverflow) :: st.view.freshRuns fresh ov

/-- the loop of `write_data` over the pages this transaction allocated (`TxInner::write_data`, tx.rs).  Rust goes in
page-id order, here the nodes come first and the free-list page last; immaterial, the runs are disjoint -/
def cowCommitData (fresh : Nat → Bool) (ov : Nat → Nat) (st : Opened) (s : Src) : Src :=
  writeFreelistPage L pagesize st.hdr.freelistPage st.flOverflow st.free (writeFreshView L pagesize fresh ov st.view s)

end

section
variable {L : Layout} {pagesize : Nat}

theorem Opened.freshRuns_subset (fresh : Nat → Bool) (ov : Nat → Nat) (st : Opened) :
    st.freshRuns fresh ov ⊆ st.runs ov :=
  List.cons_subset_cons _ (st.view.freshRuns_subset fresh ov)

theorem Opened.freshRuns_all (ov : Nat → Nat) (st : Opened) : st.freshRuns (fun _ => true) ov = st.runs ov := by
  rw [Opened.freshRuns, BucketView.freshRuns_all, Opened.runs]

theorem commitData_eq_cow (ov : Nat → Nat) (st : Opened) (s : Src) :
    commitData L pagesize ov st s = cowCommitData L pagesize (fun _ => true) ov st s := by
  rw [commitData, writeView_eq_fresh, cowCommitData]

theorem commitData_size (ov : Nat → Nat) (st : Opened) (s : Src) : (commitData L pagesize ov st s).size = s.size := by
  rw [commitData, writeFreelistPage_size, writeView_size]

theorem commitFile_size (ov : Nat → Nat) (slot : Nat) (st : Opened) (s : Src) :
    (commitFile L pagesize ov slot st s).size = s.size := by
  rw [commitFile, writeMetaPage_size, commitData_size]

theorem cowCommitData_writes (hE : L.WFEnc = true) (hL : L.WFMeta = true) (fresh : Nat → Bool) (ov : Nat → Nat) (sz : Nat)
    (st : Opened) (hfit : st.view.fits L pagesize ov sz)
    (hflfit : L.pgPtr + 8 * st.free.length ≤ (st.flOverflow + 1) * pagesize) :
    WritesRuns pagesize (st.freshRuns fresh ov) (cowCommitData L pagesize fresh ov st) :=
  -- the free-list run is written last and listed first
  ((writeFreshView_writes hE fresh ov sz st.view hfit).then
    (writeFreelistPage_writes (.of L hL) st.hdr.freelistPage st.flOverflow st.free hflfit)).mono
      List.perm_append_comm.subset

theorem cowCommitData_stores (hE : L.WFEnc = true) (hL : L.WFMeta = true) (hhdr : L.pageSize ≤ pagesize)
    (fresh : Nat → Bool) (ov : Nat → Nat) (st : Opened) (s : Src)
    (hfit : st.view.fits L pagesize ov s.size)
    (hdisj : (st.runs ov).Pairwise runsDisjoint)
    (hsh : SharedV L pagesize fresh ov s st.view)
    (hflfile : st.hdr.freelistPage * pagesize + (st.flOverflow + 1) * pagesize ≤ s.size)
    (hflfit : L.pgPtr + 8 * st.free.length ≤ (st.flOverflow + 1) * pagesize)
    (hflid : st.hdr.freelistPage < 2 ^ 64) (hflrun : (st.flOverflow + 1) * pagesize < 2 ^ 64)
    (hfree : ∀ x ∈ st.free, x < 2 ^ 64) :
    DataStored L pagesize ov (cowCommitData L pagesize fresh ov st s) st ∧
    (cowCommitData L pagesize fresh ov st s).size = s.size ∧
    (∀ i, RunOut pagesize (st.freshRuns fresh ov) i → (cowCommitData L pagesize fresh ov st s).get i = s.get i) := by
  rw [Opened.runs, List.pairwise_cons] at hdisj
  have W := Layout.WFM.of L hL
  have hwf := writeFreelistPage_writes W st.hdr.freelistPage st.flOverflow st.free hflfit
  have hw := cowCommitData_writes hE hL fresh ov s.size st hfit hflfit
  refine ⟨⟨?_, ?_⟩, hw.size s, fun _ => hw.get s⟩
  · exact (storedV_reads (Layout.WF.of L hE) hhdr ov st.view).after hwf
      (fun a ha b hb => List.mem_singleton.1 hb ▸ runsDisjoint_symm (hdisj.1 a ha))
      (writeFreshView_stored L pagesize hE hhdr fresh ov s.size st.view s rfl hfit hdisj.2 hsh)
  · exact ⟨_, decode_writeFreelistPage W pagesize st.hdr.freelistPage st.flOverflow st.free _
      (by rw [writeFreshView_size]; exact hflfile) hflfit hhdr hflid hflrun hfree, rfl, rfl⟩

theorem commitData_stores (hE : L.WFEnc = true) (hL : L.WFMeta = true) (hhdr : L.pageSize ≤ pagesize)
    (ov : Nat → Nat) (st : Opened) (s : Src)
    (hfit : st.view.fits L pagesize ov s.size)
    (hdisj : (st.runs ov).Pairwise runsDisjoint)
    (hflfile : st.hdr.freelistPage * pagesize + (st.flOverflow + 1) * pagesize ≤ s.size)
    (hflfit : L.pgPtr + 8 * st.free.length ≤ (st.flOverflow + 1) * pagesize)
    (hflid : st.hdr.freelistPage < 2 ^ 64) (hflrun : (st.flOverflow + 1) * pagesize < 2 ^ 64)
    (hfree : ∀ x ∈ st.free, x < 2 ^ 64) :
    DataStored L pagesize ov (commitData L pagesize ov st s) st ∧
    (commitData L pagesize ov st s).size = s.size ∧
    (∀ i, RunOut pagesize (st.runs ov) i → (commitData L pagesize ov st s).get i = s.get i) := by
  rw [commitData_eq_cow, ← st.freshRuns_all ov]
  exact cowCommitData_stores hE hL hhdr _ ov st s hfit hdisj (sharedV_allFresh ov s st.view) hflfile hflfit hflid hflrun hfree

theorem cowCommitData_keeps_old (hE : L.WFEnc = true) (hL : L.WFMeta = true) (fresh : Nat → Bool)
    {ov ov' : Nat → Nat} {sz : Nat} (s : Src) {slot : Nat} (hslot : slot = 0 ∨ slot = 1) {old new : Opened} (hfit : new.view.fits L pagesize ov' sz)
    (hflfit : L.pgPtr + 8 * new.free.length ≤ (new.flOverflow + 1) * pagesize)
    (habove : ∀ r ∈ new.runs ov', 2 ≤ r.1)
    (hsep : ∀ a ∈ old.runs ov, ∀ b ∈ new.freshRuns fresh ov', runsDisjoint a b) :
    KeepsState pagesize ov s (cowCommitData L pagesize fresh ov' new s) slot old :=
  have hw := cowCommitData_writes hE hL fresh ov' sz new hfit hflfit
  keepsState_of_runOut (hw.size s) (fun _ => hw.get s)
    (fun b hb => .inl (Nat.lt_of_lt_of_le (slot_lt_two hslot) (habove b (new.freshRuns_subset fresh ov' hb)))) hsep

end
end Jamm
