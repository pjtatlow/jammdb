/-
Snapshot isolation for every interleaving of the split events (`Sys2`: the writer's begin and commit are separate
events), given that a reader's begin is atomic.  The writer's private state was computed at its begin with some release
bound `B`; at commit time only `Sys.Admits B` is needed: every registered reader has an id `≥ B` (it was registered at
the writer's begin, or it is newer), or its snapshot lies inside the current one (it registered after the writer's
begin, atomically).
-/
import Jamm.Model.Conc
import Jamm.Proofs.FreelistLemmas

namespace Jamm

namespace Sys2

theorem step_commitW_base {s : Sys2} {B : Nat} (h : s.writer = some (s.base.txfl B)) (w : WriterTx) :
    (s.step (.commitW w)).base = s.base.commitWith B w := by
  simp only [Sys2.step, h]; rfl

theorem step_commitW_writer (s : Sys2) (w : WriterTx) : (s.step (.commitW w)).writer = none := by
  cases h : s.writer <;> simp only [Sys2.step, h]

theorem step_beginR_base (s : Sys2) : (s.step .beginR).base = s.base.step .beginR := rfl

theorem step_endR_base (s : Sys2) (i : Nat) : (s.step (.endR i)).base = s.base.step (.endR i) := rfl

theorem enabledB_commitW (s : Sys2) (w : WriterTx) :
    s.enabledB (.commitW w) = true ↔ s.writer.isSome = true ∧ s.base.clientOkB (.commitW w) = true := by
  rw [Sys2.enabledB, Bool.and_eq_true]

end Sys2

structure Sys2.Inv (s : Sys2) : Prop where
  base : s.base.Inv
  wr : s.writer = none ∨ ∃ B, s.writer = some (s.base.txfl B) ∧ s.base.Admits B

theorem Sys2.Inv.step {s : Sys2} (hi : s.Inv) (ev : Ev2) (hat : ev.atomic = true)
    (hen : s.enabledB ev = true) : (s.step ev).Inv := by
  obtain ⟨hb, hwr⟩ := hi
  cases ev with
  | readHeaderR => cases hat
  | registerR i => cases hat
  | beginR => exact ⟨s.step_beginR_base ▸ hb.step rfl, hwr.imp id fun ⟨B, h1, h2⟩ => ⟨B, h1, h2.beginR⟩⟩
  | endR i => exact ⟨s.step_endR_base i ▸ hb.step hen, hwr.imp id fun ⟨B, h1, h2⟩ => ⟨B, h1, h2.endR i⟩⟩
  | beginW => exact ⟨hb, Or.inr ⟨s.base.bound, rfl, s.base.admits_bound⟩⟩
  | dropW => exact ⟨hb, Or.inl rfl⟩
  | commitW w =>
    rw [Sys2.enabledB_commitW, clientOkB_commitW_iff] at hen
    obtain ⟨hsome, hfs, hfnd, _⟩ := hen
    rcases hwr with h | ⟨B, h1, h2⟩
    · rw [h] at hsome; cases hsome
    · exact ⟨Sys2.step_commitW_base h1 w ▸ hb.commitWith B h2 w hfs hfnd, Or.inl (s.step_commitW_writer w)⟩

theorem Sys2.run_induct_inv {motive : Sys2 → List Ev2 → Prop} {s' : Sys2}
    (nil : s'.Inv → motive s' [])
    (cons : ∀ (s : Sys2) (ev : Ev2) (rest : List Ev2), s.Inv → ev.atomic = true → s.enabledB ev = true →
      motive (s.step ev) rest → motive s (ev :: rest))
    {s : Sys2} {evs : List Ev2} (hi : s.Inv) (hat : evs.all Ev2.atomic = true) (h : s.run evs = some s') :
    motive s evs := by
  fun_induction Sys2.run s evs with
  | case1 s => cases h; exact nil hi
  | case2 s ev rest hc ih =>
    rw [List.all_cons, Bool.and_eq_true] at hat
    exact cons s ev rest hi hat.1 hc (ih (hi.step ev hat.1 hc) hat.2 h)
  | case3 s ev rest hc => cases h

theorem Sys2.Inv.run {s : Sys2} (hi : s.Inv) (evs : List Ev2) (s' : Sys2)
    (hat : evs.all Ev2.atomic = true) (h : s.run evs = some s') : s'.Inv :=
  Sys2.run_induct_inv (motive := fun _ _ => s'.Inv) id (fun _ _ _ _ _ _ ih => ih) hi hat h

theorem Sys2.Inv.of_base {s : Sys2} (hi : s.base.invB = true) (hw : s.writer = none) : s.Inv :=
  ⟨(invB_iff _).1 hi, Or.inl hw⟩

theorem Sys2.invB_run (s : Sys2) (evs : List Ev2) (s' : Sys2) (hi : s.base.invB = true)
    (hw : s.writer = none) (hat : evs.all Ev2.atomic = true)
    (h : s.run evs = some s') : s'.base.invB = true :=
  (invB_iff _).2 (Sys2.Inv.run (Sys2.Inv.of_base hi hw) evs s' hat h).base

/-- C04: along every trace that uses the atomic reader begin, whenever the open writer commits, no page of any
registered reader's snapshot is free or written — however readers registered and left between the writer's begin
and its commit -/
theorem readers_safe_run (s : Sys2) (evs : List Ev2) (s' : Sys2) (hi : s.base.invB = true)
    (hw : s.writer = none) (hat : evs.all Ev2.atomic = true)
    (h : s.run evs = some s') (w : WriterTx) (hen : s'.enabledB (.commitW w) = true) :
    s'.readersSafeB w = true := by
  obtain ⟨hb, hwr⟩ := Sys2.Inv.run (Sys2.Inv.of_base hi hw) evs s' hat h
  rw [Sys2.enabledB_commitW] at hen
  unfold Sys2.readersSafeB
  rw [List.all_eq_true]
  intro r hr
  rw [Bool.and_eq_true]
  refine ⟨(disjointB_iff _ _).2 (reader_pages_not_free hb hr), ?_⟩
  rcases hwr with hn | ⟨B, h1, h2⟩
  · rw [hn] at hen; simp at hen
  · rw [disjointB_iff]
    simp only [Sys2.writes, h1]
    exact reader_pages_not_written hb B h2 w hr

set_option linter.unusedVariables false in
/-- at most one write transaction is open, and a writer that begins starts from the newest
committed snapshot (its transaction id is the successor of the current one).  `h` is not used: both halves hold by
`rfl` -/
theorem writer_starts_from_newest (s : Sys2) (h : s.enabledB .beginW = true) :
    ((s.step .beginW).writer.map (·.txId)) = some (s.cur.txId + 1) ∧ (s.step .beginW).enabledB .beginW = false :=
  ⟨rfl, rfl⟩

-- C04's witness data, the schedule of D10: a reader reads the header, two writers commit, then the reader registers
-- (`nonatomic_begin_is_unsafe` runs the first four events, up to the second writer's begin)
def d10Init : Sys2 := { cur := { txId := 0, reach := [2, 3] }, shared := {}, readers := [], numPages := 4 }
def d10Trace : List Ev2 :=
  [.readHeaderR, .beginW, .commitW { freed := [3], requests := [1] }, .beginW, .commitW { freed := [2], requests := [1, 1] }, .registerR 0]

end Jamm
