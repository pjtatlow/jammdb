/-
Layer S: round trip for the header page and the free-list page.  Both writers are lists of writes; the fields of
the header record form an ascending chain (`metaWrites_asc`), which gives disjointness, the frame and the locality
of `readMeta` at once.  `MetaRec.seal` puts the checksum in: the sealed record is valid and still fits (`seal_valid`,
`seal_fits`).
-/
import Jamm.Proofs.EncodeHeader

namespace Jamm

section
variable {L : Layout}

theorem decodePage_meta (s : Src) (pagesize slot : Nat) (m : MetaRec)
    (hsz : slot * pagesize + L.pageSize ≤ s.size)
    (R : HeaderReads L s (slot * pagesize) slot L.typeMeta 0 0)
    (hm : readMeta L s (slot * pagesize) = m) :
    decodePage L s pagesize slot = .ok { id := slot, overflow := 0, count := 0, body := .hdr m } := by
  simp only [decodePage, R.ty, R.id, R.count, R.overflow, hm]
  rw [if_neg (Nat.not_lt.2 hsz), if_pos trivial]

theorem decodePage_freelist (W : L.WFM) (s : Src) (pagesize pid overflow count : Nat) (ids : List Nat)
    (hsz : pid * pagesize + (overflow + 1) * pagesize ≤ s.size)
    (hhdr : L.pageSize ≤ pagesize)
    (R : HeaderReads L s (pid * pagesize) pid L.typeFreelist count overflow)
    (hfit : L.pgPtr + 8 * count ≤ (overflow + 1) * pagesize)
    (hids : (List.range count).map (fun i => s.le (pid * pagesize + L.pgPtr + 8 * i) 8) = ids) :
    decodePage L s pagesize pid =
      .ok { id := pid, overflow := overflow, count := count, body := .freelist ids } := by
  -- the fixed page header lies in the first page of the run, the run in the file, the ids in the run
  have h1 : pid * pagesize + L.pageSize ≤ s.size :=
    Nat.le_trans (Nat.add_le_add_left (Nat.le_trans hhdr (page_le_run overflow pagesize)) _) hsz
  simp only [decodePage, R.ty, R.id, R.count, R.overflow, hids]
  rw [if_neg (Nat.not_lt.2 h1), if_neg W.tfm, if_neg (Nat.not_lt.2 hsz), if_neg W.tfb, if_neg W.tfl, if_pos trivial,
    if_neg (Nat.not_lt.2 (Nat.add_assoc .. ▸ Nat.add_le_add_left hfit _))]

/-- `rootPage` / `nextInt` sit inside the nested record at `mRoot` (`mRoot + bmRoot`): hence the two links that are `omega`,
not `asc_link` -/
theorem metaWrites_asc (W : L.WFM) (base : Nat) (m : MetaRec) :
    Asc (base + L.pgPtr) (metaWrites L base m) (base + L.pgPtr + L.metaSize) := by
  simp only [metaWrites, Asc, leBytes_length]
  exact ⟨Nat.le_add_right _ _, asc_link _ W.m1, asc_link _ W.m2, asc_link _ W.m3, by have := W.m4; omega,
    asc_link _ W.m5, by have := W.m6; have := W.m7; omega, asc_link _ W.m8, asc_link _ W.m9, asc_link _ W.m10,
    asc_link _ W.m11⟩

theorem readMeta_of_hasAt {s : Src} {base : Nat} {m : MetaRec} (H : ∀ w ∈ metaWrites L base m, s.HasAt w.1 w.2)
    (hm : m.fits L = true) : readMeta L s base = m := by
  obtain ⟨f1, f2, f3, f4, f5, f6, f7, f8, f9, f10⟩ := of_decide_eq_true hm
  simp only [metaWrites, List.forall_mem_cons, List.not_mem_nil, false_imp_iff, implies_true, and_true] at H
  obtain ⟨H1, H2, H3, H4, H5, H6, H7, H8, H9, H10⟩ := H
  simp only [readMeta, H1.leN f1, H2.leN f2, H3.leN f3, H4.le8 f4, H5.le8 f5, H6.le8 f6, H7.le8 f7,
    H8.le8 f8, H9.le8 f9, H10.le8 f10]

theorem readMeta_agree (W : L.WFM) {s s' : Src} {base : Nat}
    (h : Src.AgreeOn s s' (base + L.pgPtr) (base + L.pgPtr + L.metaSize)) :
    readMeta L s' base = readMeta L s base := by
  have H := (metaWrites_asc W base default).le_agree h
  simp only [metaWrites, List.forall_mem_cons, List.not_mem_nil, false_imp_iff, implies_true, and_true,
    leBytes_length] at H
  obtain ⟨h1, h2, h3, h4, h5, h6, h7, h8, h9, h10⟩ := H
  simp only [readMeta, h1, h2, h3, h4, h5, h6, h7, h8, h9, h10]

-- proved by `applyWrites_cons`: plain `rfl` is accepted but unfolds the whole fold (slow to check)
theorem writeMetaPage_eq (L : Layout) (pagesize slot : Nat) (m : MetaRec) (s : Src) :
    writeMetaPage L pagesize slot m s =
      applyWrites ([(slot * pagesize + L.pgId, leBytes slot 8), (slot * pagesize + L.pgType, [L.typeMeta.toUInt8])] ++
        metaWrites L (slot * pagesize) m) (s.write (slot * pagesize) (List.replicate pagesize 0)) :=
  applyWrites_cons (slot * pagesize, List.replicate pagesize 0) _ s

/-- what `writeMetaPage` leaves in `s'`.  `zeros`: count and overflow are never written; they lie in `[pgCount, pgPtr)`
and read 0 from the zero fill -/
structure MetaPageWritten (L : Layout) (pagesize slot : Nat) (m : MetaRec) (s s' : Src) : Prop where
  id : s'.HasAt (slot * pagesize + L.pgId) (leBytes slot 8)
  ty : s'.HasAt (slot * pagesize + L.pgType) [L.typeMeta.toUInt8]
  record : ∀ w ∈ metaWrites L (slot * pagesize) m, s'.HasAt w.1 w.2
  zeros : s'.HasAt (slot * pagesize + L.pgCount) (List.replicate (L.pgPtr - L.pgCount) 0)
  frame : ∀ i, i < slot * pagesize ∨ slot * pagesize + pagesize ≤ i → s'.get i = s.get i

theorem writeMetaPage_spec (W : L.WFM) (pagesize slot : Nat) (m : MetaRec) (s : Src)
    (hrec : L.pgPtr + L.metaSize ≤ pagesize) :
    MetaPageWritten L pagesize slot m s (writeMetaPage L pagesize slot m s) := by
  -- after the zero fill the writes are one ascending chain (id, type) ++ record; count / overflow lie in the gap
  -- `[pgCount, pgPtr)` between its two parts and keep the zeros
  have pg3 := W.pg3; have pg4 := W.pg4
  have hI : Asc (slot * pagesize) [(slot * pagesize + L.pgId, leBytes slot 8),
      (slot * pagesize + L.pgType, [L.typeMeta.toUInt8])] (slot * pagesize + L.pgCount) := by
    simp only [Asc, leBytes_length, List.length_cons, List.length_nil]
    exact ⟨Nat.le_add_right _ _, asc_link _ W.pg1, asc_link _ W.pg2⟩
  have hM := metaWrites_asc W (slot * pagesize) m
  have hA := hI.append hM (by omega)
  have H := applyWrites_hasAt _ (s.write (slot * pagesize) (List.replicate pagesize 0)) hA.pairwise
  rw [writeMetaPage_eq]
  simp only [List.forall_mem_append, List.forall_mem_cons, List.not_mem_nil, false_imp_iff, implies_true, and_true] at H
  refine ⟨H.1.1, H.1.2, H.2, ?_, fun i hi => ?_⟩
  · refine ((Src.hasAt_write_self s _ _).zeros_sub L.pgCount _ (by omega)).applyWrites_disj _ (fun w hw => ?_)
    rw [List.length_replicate]
    rcases List.mem_append.1 hw with hw | hw
    · exact Or.inr (hI.range w hw).2
    · exact Or.inl (by have := (hM.range w hw).1; omega)
  · refine (applyWrites_get_out _ _ i (fun w hw => ?_)).trans
      (Src.write_get_out _ _ _ _ (by rw [List.length_replicate]; exact hi))
    have := hA.range w hw; omega

theorem writeMetaPage_size (L : Layout) (pagesize slot : Nat) (m : MetaRec) (s : Src) :
    (writeMetaPage L pagesize slot m s).size = s.size :=
  applyWrites_size _ _

theorem decode_writeMetaPage (W : L.WFM) (pagesize slot : Nat) (m : MetaRec) (s : Src)
    (hfile : slot * pagesize + pagesize ≤ s.size)
    (hrec : L.pgPtr + L.metaSize ≤ pagesize) (hhdr : L.pageSize ≤ pagesize)
    (hslot : slot < 2 ^ 64) (hm : m.fits L = true) :
    decodePage L (writeMetaPage L pagesize slot m s) pagesize slot =
      .ok { id := slot, overflow := 0, count := 0, body := .hdr m } := by
  have pg3 := W.pg3; have pg4 := W.pg4
  have H := writeMetaPage_spec W pagesize slot m s hrec
  have hsz := writeMetaPage_size L pagesize slot m s
  refine decodePage_meta _ pagesize slot m (by omega) ⟨?_, H.id.le8 hslot, ?_, ?_⟩ (readMeta_of_hasAt H.record hm)
  · exact H.ty.byte W.tm
  · simpa using (H.zeros.zeros_sub 0 8 (by omega)).le_zero
  · have := (H.zeros.zeros_sub (L.pgOverflow - L.pgCount) 8 (by omega)).le_zero
    rwa [Nat.add_assoc, Nat.add_sub_cancel' (by omega)] at this

theorem metaHash_seal (L : Layout) (order : List MetaField) (m : MetaRec) :
    metaHash L order (MetaRec.seal L order m) = metaHash L order m := by
  have h : fieldBytes L (MetaRec.seal L order m) = fieldBytes L m := by
    funext f; cases f <;> rfl
  simp only [metaHash, metaHashInput, h]

/-- the checksum does not cover itself -/
theorem seal_valid (L : Layout) (order : List MetaField) (m : MetaRec) :
    metaValid L order (MetaRec.seal L order m) = true := by
  rw [metaValid, metaHash_seal]
  simp only [MetaRec.seal, beq_self_eq_true]

theorem seal_fits (L : Layout) (order : List MetaField) (m : MetaRec) (h : m.fits L = true) :
    (MetaRec.seal L order m).fits L = true := by
  obtain ⟨f1, f2, f3, f4, f5, f6, f7, f8, f9, _⟩ := of_decide_eq_true h
  exact decide_eq_true ⟨f1, f2, f3, f4, f5, f6, f7, f8, f9, UInt64.toNat_lt (fnv1a (metaHashInput L order m))⟩

theorem writeMetaPage_frame {pagesize : Nat} (W : L.WFM) (hrec : L.pgPtr + L.metaSize ≤ pagesize) (slot : Nat)
    (m : MetaRec) (s : Src) {i : Nat} (h : i < slot * pagesize ∨ slot * pagesize + pagesize ≤ i) :
    (writeMetaPage L pagesize slot m s).get i = s.get i :=
  (writeMetaPage_spec W pagesize slot m s hrec).frame i h

theorem freelistPageWrites_spec (W : L.WFM) (pagesize pid overflow : Nat) (ids : List Nat) :
    (freelistPageWrites L pagesize pid overflow ids).Pairwise WDisj ∧
    ∀ w ∈ freelistPageWrites L pagesize pid overflow ids,
      pid * pagesize ≤ w.1 ∧ w.1 + w.2.length ≤ pid * pagesize + (L.pgPtr + 8 * ids.length) :=
  pageWrites_spec L W.pg1 W.pg2 W.pg3 W.pg4 (List.pairwise_singleton _ _)
    (fun w hw => by
      rw [List.mem_singleton.1 hw, flatMap_leBytes8_length]
      exact ⟨Nat.le_refl _, by omega⟩)
    (Nat.le_add_right _ _)

theorem writeFreelistPage_size (L : Layout) (pagesize pid overflow : Nat) (ids : List Nat) (s : Src) :
    (writeFreelistPage L pagesize pid overflow ids s).size = s.size :=
  applyWrites_size _ s

theorem decode_writeFreelistPage (W : L.WFM) (pagesize pid overflow : Nat) (ids : List Nat) (s : Src)
    (hfile : pid * pagesize + (overflow + 1) * pagesize ≤ s.size)
    (hfit : L.pgPtr + 8 * ids.length ≤ (overflow + 1) * pagesize)
    (hhdr : L.pageSize ≤ pagesize)
    (hid : pid < 2 ^ 64) (hrun : (overflow + 1) * pagesize < 2 ^ 64)
    (hv : ∀ x ∈ ids, x < 2 ^ 64) :
    decodePage L (writeFreelistPage L pagesize pid overflow ids s) pagesize pid =
      .ok { id := pid, overflow := overflow, count := ids.length, body := .freelist ids } := by
  have pg4 := W.pg4; have pg5 := W.pg5
  have hov : overflow + 1 ≤ (overflow + 1) * pagesize := Nat.le_mul_of_pos_right _ (by omega)
  have H := applyWrites_hasAt _ s (freelistPageWrites_spec W pagesize pid overflow ids).1
  exact decodePage_freelist W _ pagesize pid overflow ids.length ids
    (by rw [writeFreelistPage_size]; exact hfile) hhdr
    (header_of_hasAt L (fun w hw => H w (List.mem_append_left _ hw)) hid W.tf (by omega) (by omega)) hfit
    (Src.words_eq ids _ (H _ (List.mem_append_right _ (List.mem_singleton_self _))) hv)

end
end Jamm
