/-
Layer C: the leaf edits of a transaction, `put` and `del`.  Both rebuild the branches on one search path from one
edited child, so what does not depend on where the key goes follows from the child congruences by `path_lift`, for
both at once where the invariant does not look at the entries of a leaf either (`applyOp_lift`).

`put` does not keep `WFS` by itself (`put_wfs_false`): `WFS` lets an off-spine branch have a first key
strictly above its routing lower bound, and a `put` into that gap lands in the branch's first child, below
the branch's first key.  With `TightT lo t` (no such gap) it does, and tightness is kept (`put_wfs'`).  `put` and
`WFS` is the one case with an induction of its own (`put_putAt_wfs`).  Results: `applyOp_inv`, `applyOps_inv` (`TreeInv`
through any list of edits), `applyOp_neb`.
-/
import Jamm.Proofs.CommitInvLemmas
import Jamm.Proofs.TxLemmas
open Std

namespace Jamm

namespace PutCounterexample

/-- root `[(0, leaf [0]), (10, branch [(20, leaf [20])])]`: the inner branch routes `[10, ∞)` but its
first key is 20 -/
def tree : Tree Nat Unit :=
  .branch 0 (.cons 0 (.leaf 0 [(0, ())]) (.cons 10 (.branch 0 (.cons 20 (.leaf 0 [(20, ())]) .nil)) .nil))

def tree' : Tree Nat Unit :=
  .branch 0 (.cons 0 (.leaf 0 [(0, ())])
    (.cons 10 (.branch 0 (.cons 20 (.leaf 0 [(15, ()), (20, ())]) .nil)) .nil))

theorem put_eq : tree.put 15 () = tree' := by rfl

theorem tree_wfs : WFS none none tree := wfsb_sound none none _ (by decide)

theorem tree'_not_wfs : ¬ WFS none none tree' := by
  -- a derivation would have to reach the leaf below the inner branch with that branch's first key as its lower bound
  -- (`sepLo (some 10) 20 = some 20`), and the leaf holds 15
  intro h
  obtain ⟨-, -, hroot⟩ := WFS.branch_iff.1 h
  obtain ⟨-, -, -, -, hinner⟩ := WFFS.cons_iff.1 hroot
  obtain ⟨-, -, hkids⟩ := WFS.branch_iff.1 (WFFS.last_iff.1 hinner)
  have hleaf : WFS (some 20) none (.leaf 0 [(15, ()), (20, ())]) := WFFS.last_iff.1 hkids
  have h15 : kle (20 : Nat) 15 = true := ((WFS.leaf_iff.1 hleaf).2 (15, ()) List.mem_cons_self).1
  revert h15
  decide

end PutCounterexample

theorem put_wfs_false :
    ¬ (∀ (lo hi : Option Nat) (t : Tree Nat Unit), WFS lo hi t → ∀ (key : Nat) (e : Unit),
        inLo lo key → inHi hi key → WFS lo hi (t.put key e)) := by
  intro H
  have := H none none _ PutCounterexample.tree_wfs 15 () trivial trivial
  rw [PutCounterexample.put_eq] at this
  exact PutCounterexample.tree'_not_wfs this

section
variable {K E : Type} [Ord K] [DecidableEq K]

theorem applyOp_lift {ι : Type} {P : ι → Tree K E → Prop} (hc : ChildCongr P fun p p' => p' = p)
    (hl : ∀ i p es es', P i (.leaf p es) → P i (.leaf p es')) (t : Tree K E) (op : TxOp K E) (i : ι) (h : P i t) :
    P i (t.applyOp op) := by
  cases op with
  | put k e => exact path_lift (put_branch_mapAt k e) hc (fun i p es => hl i p es _) t i h
  | del k => exact path_lift (del_branch_mapAt k) hc (fun i p es => hl i p es _) t i h

theorem applyOp_uniform (t : Tree K E) (op : TxOp K E) (d : Nat) (h : UniformT d t) : UniformT d (t.applyOp op) :=
  applyOp_lift (uniform_childCongr _) (fun _ _ _ _ h => by cases h; exact .leaf _ _) t op d h

theorem applyOp_neb (t : Tree K E) (op : TxOp K E) (hn : nebT t = true) : nebT (t.applyOp op) = true :=
  applyOp_lift (neb_childCongr _) (fun _ _ _ _ _ => rfl) t op () hn

theorem applyOps_neb (t : Tree K E) (hn : nebT t = true) (ops : List (TxOp K E)) :
    nebT (ops.foldl Tree.applyOp t) = true :=
  foldl_keeps (fun t op h => applyOp_neb t op h) ops t hn

theorem applyOp_tight (t : Tree K E) (op : TxOp K E) (lo : Option K) (h : TightT lo t) : TightT lo (t.applyOp op) :=
  applyOp_lift (tight_childCongr _) (fun _ _ _ _ _ => .leaf _ _ _) t op lo h

end

section
variable {K E : Type} [Ord K] [TransOrd K] [DecidableEq K]

theorem del_keeps_wfs (lo hi : Option K) (t : Tree K E) (h : WFS lo hi t) (key : K) : WFS lo hi (t.del key) :=
  path_lift (del_branch_mapAt key) (wfs_childCongr _)
    (fun _ _ es h =>
      have ⟨hs, hb⟩ := WFS.leaf_iff.1 h
      WFS.leaf_iff.2 ⟨Spec.sorted_erase key es hs, fun x hx => hb x (Spec.mem_of_mem_erase hx)⟩)
    t (lo, hi) h

end

variable {K E : Type} [Ord K] [TransOrd K] [LawfulEqOrd K] [DecidableEq K]

/-- the forest half says `∃ t₁ rest₁, … = .cons k t₁ rest₁` because `putAt` at an index that is not a numeral
does not reduce -/
theorem put_putAt_wfs (key : K) (e : E) :
    (∀ (lo hi : Option K) (t : Tree K E), WFS lo hi t → TightT lo t → inLo lo key → inHi hi key →
      WFS lo hi (t.put key e)) ∧
    (∀ (lo hi : Option K) (k : K) (t : Tree K E) (rest : Forest K E), WFFS lo hi k t rest →
      TightF lo k t rest → inLo lo key → inHi hi key →
      ∃ t₁ rest₁, Forest.putAt key e (.cons k t rest) (indexOf (k :: rest.keys) key).1 = .cons k t₁ rest₁ ∧
        WFFS lo hi k t₁ rest₁) := by
  -- by induction on the derivation.  The forest half follows `indexOf` along the keys: `key < k'` stays in this child
  -- (`indexOf_cons_cons_lt`), otherwise it moves on (`indexOf_cons_cons_ge`); the child that takes `key` gets it
  -- inside the bounds `WFFS` has for that child, so the induction hypothesis applies
  apply wfs_induct
  case leaf =>
    intro lo hi p es hs hb _ hlo hhi
    simp only [Tree.put]
    refine WFS.leaf_iff.2 ⟨Spec.sorted_insert key e es hs, fun x hx => ?_⟩
    rcases Spec.eq_or_mem_of_mem_insert hx with rfl | hx
    · exact ⟨hlo, hhi⟩
    · exact hb x hx
  case branch =>
    intro lo hi p k t rest hklo hkhi _ ih ht hlo hhi
    cases ht with
    | branch _ _ _ _ _ htk htf =>
      -- the only use of tightness: `k ≤ l` (tight) and `l ≤ key` give `k ≤ key`, the premise `WFS` needs to
      -- hand `key` to the first child
      have hlo' : inLo (sepLo lo k) key := by
        cases lo with
        | none => trivial
        | some l => exact kle_trans htk hlo
      obtain ⟨t₁, rest₁, heq, hwf⟩ := ih htf hlo' hhi
      simp only [Tree.put, Forest.keys_cons]
      rw [heq]
      exact WFS.branch_iff.2 ⟨hklo, hkhi, hwf⟩
  case emptyBranch =>
    intro lo hi p _ _ _
    simp only [Tree.put, Forest.putAt]
    exact WFS.emptyBranch _ _ _
  case last =>
    intro lo hi k t _ ih ht hlo hhi
    cases ht with
    | last _ _ _ ht =>
      refine ⟨t.put key e, .nil, ?_, WFFS.last_iff.2 (ih ht hlo hhi)⟩
      rw [Forest.keys_nil, indexOf_single]
      simp only [Forest.putAt]
  case cons =>
    intro lo hi k t k' t' rest hk hlo' hhi' hwt hwr iht ihr ht hlo hhi
    cases ht with
    | cons _ _ _ _ _ _ htt htr =>
      simp only [Forest.keys_cons]
      by_cases hkey : klt key k' = true
      · refine ⟨t.put key e, .cons k' t' rest, ?_, WFFS.cons_iff.2 ⟨hk, hlo', hhi', iht htt hlo hkey, hwr⟩⟩
        rw [indexOf_cons_cons_lt k k' _ key hkey]
        simp only [Forest.putAt]
      · have hkey' : klt key k' = false := by simpa using hkey
        obtain ⟨t₁, rest₁, heq, hwf⟩ := ihr htr (kle_of_not_klt hkey') hhi
        refine ⟨t, .cons k' t₁ rest₁, ?_, WFFS.cons_iff.2 ⟨hk, hlo', hhi', hwt, hwf⟩⟩
        rw [indexOf_cons_cons_ge k k' _ key hk hkey']
        simp only [Forest.putAt]
        rw [heq]

/-- without `ht` the statement is false: `put_wfs_false` -/
theorem put_wfs' (lo hi : Option K) (t : Tree K E) (h : WFS lo hi t) (ht : TightT lo t) (key : K) (e : E)
    (hlo : inLo lo key) (hhi : inHi hi key) : WFS lo hi (t.put key e) ∧ TightT lo (t.put key e) :=
  ⟨(put_putAt_wfs key e).1 lo hi t h ht hlo hhi, applyOp_tight t (.put key e) lo ht⟩

section
-- nothing uses the forest halves below (a fact about `putAt` / `delAt` is the fact about `Forest.mapAt`, by `putAt_eq` /
-- `delAt_eq`); they are stated with `[TransOrd K] [LawfulEqOrd K]`, `del_wfs` with `[LawfulEqOrd K]`, and do not use them
set_option linter.unusedSectionVars false

set_option linter.unusedVariables false in
/-- `hlo`, `hhi` are not used: `del_keeps_wfs` -/
theorem del_wfs (lo hi : Option K) (t : Tree K E) (h : WFS lo hi t) (key : K)
    (hlo : inLo lo key) (hhi : inHi hi key) : WFS lo hi (t.del key) :=
  del_keeps_wfs lo hi t h key

theorem putAt_uniform (key : K) (e : E) (f : Forest K E) (i d : Nat) (h : UniformF d f) :
    UniformF d (Forest.putAt key e f i) := by
  rw [putAt_eq]
  exact mapAt_uniform _ (applyOp_uniform · (.put key e)) f i d h

theorem delAt_uniform (key : K) (f : Forest K E) (i d : Nat) (h : UniformF d f) :
    UniformF d (Forest.delAt key f i) := by
  rw [delAt_eq]
  exact mapAt_uniform _ (applyOp_uniform · (.del key)) f i d h

theorem putAt_neb_aux (key : K) (e : E) (f : Forest K E) (i : Nat) (h : nebF f = true) :
    (Forest.putAt key e f i).length = f.length ∧ nebF (Forest.putAt key e f i) = true :=
  putAt_eq key e f i ▸ mapAt_neb _ (applyOp_neb · (.put key e)) f i h

theorem delAt_neb_aux (key : K) (f : Forest K E) (i : Nat) (h : nebF f = true) :
    (Forest.delAt key f i).length = f.length ∧ nebF (Forest.delAt key f i) = true :=
  delAt_eq key f i ▸ mapAt_neb _ (applyOp_neb · (.del key)) f i h

end

theorem applyOp_inv (t : Tree K E) (h : TreeInv t) (op : TxOp K E) : TreeInv (t.applyOp op) := by
  obtain ⟨d, hu⟩ := h.uniform
  refine ⟨?_, applyOp_tight t op none h.tight, d, applyOp_uniform t op d hu⟩
  cases op with
  | put k e => exact (put_wfs' none none t h.sep h.tight k e trivial trivial).1
  | del k => exact del_keeps_wfs none none t h.sep k

theorem applyOps_inv (t : Tree K E) (h : TreeInv t) (ops : List (TxOp K E)) : TreeInv (ops.foldl Tree.applyOp t) :=
  foldl_keeps (fun t op h => applyOp_inv t h op) ops t h

theorem applyOps_inv_neb (t : Tree K E) (h : TreeInv t) (hn : nebT t = true) (ops : List (TxOp K E)) :
    TreeInv (ops.foldl Tree.applyOp t) ∧ nebT (ops.foldl Tree.applyOp t) = true ∧
    WF none none (ops.foldl Tree.applyOp t) :=
  have hi := applyOps_inv t h ops
  have hn' := applyOps_neb t hn ops
  ⟨hi, hn', wfs_wf none none _ hi.sep hn'⟩

end Jamm
