/-
Layer C: the invariants of a bucket's tree, each by itself and each with its child congruence (`CommitCongr.lean`):
uniform depth, "no childless branch" (`nebT`), the separator invariant `WFS` (with `nebT` it gives `WF`: `wfs_wf`;
bounds may be widened: `loLe`, `hiLe`, `WFS.weaken`; an entry list is spliced by `WFFS.append_iff`), tightness
(`TightT`, and `TightMT` for the pages a transaction has not materialised; `TightT.toM`).  `TreeInv` is `WFS`, `TightT`
and a uniform depth at the root; `nebT` is kept beside it.  Soundness of the executable checks.  In names: `repid` =
the page id of the node is replaced, `remat` = replaced by the id of a materialised node, `toM` = from `TightT` to
`TightMT`.
-/
import Jamm.Model.CommitTight
import Jamm.Proofs.TreeWF
import Jamm.Proofs.FileCheckLemmas
import Jamm.Proofs.CommitCongr
open Std

namespace Jamm

section
variable {K E : Type}

theorem uniformF_iff {d : Nat} {f : Forest K E} : UniformF d f ↔ ∀ e ∈ f.toList, UniformT d e.2 :=
  Forest.forall_iff (P := fun e => UniformT d e.2) (UniformF.nil d)
    (fun _ _ _ => ⟨fun h => by cases h with | cons _ _ _ _ ht hr => exact ⟨ht, hr⟩, fun h => .cons _ _ _ _ h.1 h.2⟩) f

theorem uniformF_append (d : Nat) (f g : Forest K E) (hf : UniformF d f) (hg : UniformF d g) :
    UniformF d (Forest.append f g) := by
  rw [uniformF_iff, Forest.toList_append] at *
  exact List.forall_mem_append.2 ⟨hf, hg⟩

theorem UniformT.branch_iff {d p : Nat} {kids : Forest K E} :
    UniformT d (.branch p kids) ↔ ∃ d', d = d' + 1 ∧ UniformF d' kids :=
  ⟨fun h => by cases h with | branch d' _ _ hk => exact ⟨d', rfl, hk⟩, fun ⟨_, e, hk⟩ => e ▸ .branch _ _ _ hk⟩

theorem Forest.Rel₂.uniformF {R : Tree K E → Tree K E → Prop} {d : Nat} {f f' : Forest K E}
    (hr : Forest.Rel₂ R f f') (hR : ∀ a b, R a b → UniformT d a → UniformT d b) (hu : UniformF d f) :
    UniformF d f' :=
  uniformF_iff.2 (hr.all hR (uniformF_iff.1 hu))

theorem uniform_childCongr (ok : Nat → Nat → Prop) : ChildCongr (fun d (t : Tree K E) => UniformT d t) ok := by
  intro d p p' kids kids' _ h hr
  obtain ⟨d', rfl, hk⟩ := UniformT.branch_iff.1 h
  exact .branch _ _ _ (hr.uniformF (fun _ _ hab => hab d') hk)

theorem mapAt_uniform (g : Tree K E → Tree K E) (hg : ∀ t d, UniformT d t → UniformT d (g t))
    (f : Forest K E) (i d : Nat) (h : UniformF d f) : UniformF d (f.mapAt g i) :=
  (Forest.Rel₂.mapAt g (fun _ h => h) f i fun e _ => hg e.2 d).uniformF (fun _ _ h => h) h

end

section
variable {K E : Type}

theorem nebF_cons {k : K} {t : Tree K E} {rest : Forest K E} :
    nebF (.cons k t rest) = true ↔ nebT t = true ∧ nebF rest = true := by
  rw [nebF, Bool.and_eq_true]

theorem nebF_iff {f : Forest K E} : nebF f = true ↔ ∀ e ∈ f.toList, nebT e.2 = true :=
  Forest.forall_iff (Φ := fun f => nebF f = true) (P := fun e => nebT e.2 = true) rfl (fun _ _ _ => nebF_cons) f

theorem nebT_branch_iff {p : Nat} {kids : Forest K E} :
    nebT (.branch p kids) = true ↔ kids.length ≠ 0 ∧ ∀ e ∈ kids.toList, nebT e.2 = true := by
  simp only [nebT, Bool.and_eq_true, bne_iff_ne, ne_eq, nebF_iff]

theorem neb_childCongr (ok : Nat → Nat → Prop) :
    ChildCongr (fun (_ : Unit) (t : Tree K E) => nebT t = true) ok := by
  intro _ p p' kids kids' _ h hr
  rw [nebT_branch_iff] at h ⊢
  exact ⟨hr.length_eq ▸ h.1, hr.all (fun _ _ hab => hab ()) h.2⟩

theorem mapAt_neb (g : Tree K E → Tree K E) (hg : ∀ t, nebT t = true → nebT (g t) = true) (f : Forest K E)
    (i : Nat) (h : nebF f = true) : (f.mapAt g i).length = f.length ∧ nebF (f.mapAt g i) = true :=
  have hr := Forest.Rel₂.mapAt (R := fun a b => nebT a = true → nebT b = true) g (fun _ h => h) f i
    fun e _ => hg e.2
  ⟨hr.length_eq, nebF_iff.2 (hr.all (fun _ _ h => h) (nebF_iff.1 h))⟩

theorem nebT_branch_ofList (pid : Nat) (c : List (K × Tree K E))
    (hne : c ≠ []) (h : ∀ e ∈ c, nebT e.2 = true) : nebT (Tree.branch pid (Forest.ofList c)) = true := by
  rw [nebT_branch_iff, Forest.length_eq, Forest.toList_ofList]
  exact ⟨mt List.length_eq_zero_iff.1 hne, h⟩

end

section
variable {K : Type}

theorem sepLo_sepLo (lo : Option K) (a b : K) : sepLo (sepLo lo a) b = sepLo lo b := by
  cases lo <;> rfl

theorem sepLo_cases (lo : Option K) (k : K) : sepLo lo k = none ∨ sepLo lo k = some k := by
  cases lo with
  | none => exact Or.inl rfl
  | some l => exact Or.inr rfl

end

section defs
variable {K E : Type} [Ord K]

theorem wfs_induct {P : Option K → Option K → Tree K E → Prop}
    {Q : Option K → Option K → K → Tree K E → Forest K E → Prop}
    (leaf : ∀ lo hi p es, Spec.Sorted es → (∀ e ∈ es, inLo lo e.1 ∧ inHi hi e.1) →
      P lo hi (.leaf p es))
    (branch : ∀ lo hi p k t rest, inLo lo k → inHi hi k → WFFS (sepLo lo k) hi k t rest →
      Q (sepLo lo k) hi k t rest → P lo hi (.branch p (.cons k t rest)))
    (emptyBranch : ∀ lo hi p, P lo hi (.branch p .nil))
    (last : ∀ lo hi k t, WFS lo hi t → P lo hi t → Q lo hi k t .nil)
    (cons : ∀ lo hi k t k' t' rest, klt k k' = true → inLo lo k' → inHi hi k' →
      WFS lo (some k') t → WFFS (some k') hi k' t' rest →
      P lo (some k') t → Q (some k') hi k' t' rest → Q lo hi k t (.cons k' t' rest)) :
    (∀ lo hi t, WFS lo hi t → P lo hi t) ∧ (∀ lo hi k t rest, WFFS lo hi k t rest → Q lo hi k t rest) :=
  ⟨fun _ _ _ h => WFS.rec (motive_1 := fun lo hi t _ => P lo hi t)
      (motive_2 := fun lo hi k t rest _ => Q lo hi k t rest) leaf branch emptyBranch last cons h,
   fun _ _ _ _ _ h => WFFS.rec (motive_1 := fun lo hi t _ => P lo hi t)
      (motive_2 := fun lo hi k t rest _ => Q lo hi k t rest) leaf branch emptyBranch last cons h⟩

/-- `lo'` is a weaker (smaller or absent) lower bound than `lo` -/
def loLe (lo' lo : Option K) : Prop :=
  match lo', lo with
  | none, _ => True
  | some _, none => False
  | some a, some b => kle a b = true

/-- `hi'` is a weaker (larger or absent) upper bound than `hi` -/
def hiLe (hi hi' : Option K) : Prop :=
  match hi, hi' with
  | _, none => True
  | none, some _ => False
  | some a, some b => kle a b = true

set_option linter.unusedSectionVars false in
theorem sepLo_none (k : K) : sepLo (none : Option K) k = none := rfl

set_option linter.unusedSectionVars false in
theorem sepLo_some (l k : K) : sepLo (some l) k = some k := rfl

theorem loLe_sepLo_self {lo : Option K} {k : K} (h : inLo lo k) : loLe lo (sepLo lo k) := by
  cases lo with
  | none => trivial
  | some l => exact h

theorem loLe_of_inLo {lo : Option K} {m : K} (h : inLo lo m) : loLe lo (some m) := by
  cases lo with
  | none => trivial
  | some a => exact h

theorem inLo_sepLo {lo : Option K} {k a : K} (h : kle k a = true) : inLo (sepLo lo k) a := by
  cases lo with
  | none => trivial
  | some l => exact h

theorem wfs_leaf_nil (lo hi : Option K) (p : Nat) : WFS lo hi (.leaf p ([] : List (K × E))) :=
  .leaf _ _ _ _ trivial fun _ he => nomatch he

theorem WFS.leaf_iff {lo hi : Option K} {p : Nat} {es : List (K × E)} :
    WFS lo hi (.leaf p es) ↔ Spec.Sorted es ∧ ∀ e ∈ es, inLo lo e.1 ∧ inHi hi e.1 :=
  ⟨fun h => by cases h with | leaf _ _ _ _ hs hb => exact ⟨hs, hb⟩, fun h => .leaf _ _ _ _ h.1 h.2⟩

theorem WFS.branch_iff {lo hi : Option K} {p : Nat} {k : K} {t : Tree K E} {rest : Forest K E} :
    WFS lo hi (.branch p (.cons k t rest)) ↔ inLo lo k ∧ inHi hi k ∧ WFFS (sepLo lo k) hi k t rest :=
  ⟨fun h => by cases h with | branch _ _ _ _ _ _ hlo hhi hf => exact ⟨hlo, hhi, hf⟩,
   fun ⟨hlo, hhi, hf⟩ => .branch _ _ _ _ _ _ hlo hhi hf⟩

theorem WFFS.last_iff {lo hi : Option K} {k : K} {t : Tree K E} : WFFS lo hi k t .nil ↔ WFS lo hi t :=
  ⟨fun h => by cases h with | last _ _ _ _ hw => exact hw, .last _ _ _ _⟩

theorem WFS.only_child {lo hi : Option K} {p : Nat} {k : K} {c : Tree K E}
    (h : WFS lo hi (.branch p (.cons k c .nil))) : WFS (sepLo lo k) hi c :=
  WFFS.last_iff.1 (WFS.branch_iff.1 h).2.2

theorem WFFS.cons_iff {lo hi : Option K} {k k' : K} {t t' : Tree K E} {rest : Forest K E} :
    WFFS lo hi k t (.cons k' t' rest) ↔
      klt k k' = true ∧ inLo lo k' ∧ inHi hi k' ∧ WFS lo (some k') t ∧ WFFS (some k') hi k' t' rest :=
  ⟨fun h => by cases h with | cons _ _ _ _ _ _ _ hk hlo hhi hwt hwr => exact ⟨hk, hlo, hhi, hwt, hwr⟩,
   fun ⟨hk, hlo, hhi, hwt, hwr⟩ => .cons _ _ _ _ _ _ _ hk hlo hhi hwt hwr⟩

theorem WFS.repid {lo hi : Option K} {p : Nat} {kids : Forest K E} (h : WFS lo hi (.branch p kids))
    (p' : Nat) : WFS lo hi (.branch p' kids) := by
  cases h with
  | branch _ _ _ k t rest hlo hhi hf => exact WFS.branch _ _ _ _ _ _ hlo hhi hf
  | emptyBranch => exact WFS.emptyBranch _ _ _

theorem WFS.repid_leaf {lo hi : Option K} {p : Nat} {es : List (K × E)} (h : WFS lo hi (.leaf p es))
    (p' : Nat) : WFS lo hi (.leaf p' es) :=
  WFS.leaf_iff.2 (WFS.leaf_iff.1 h)

end defs

section
variable {K E : Type} [Ord K] [TransOrd K]

theorem inLo_of_loLe {lo' lo : Option K} {k : K} (h : loLe lo' lo) (hk : inLo lo k) : inLo lo' k := by
  cases lo' with
  | none => trivial
  | some a =>
    cases lo with
    | none => exact absurd h id
    | some b => exact kle_trans h hk

theorem inHi_of_hiLe {hi hi' : Option K} {k : K} (h : hiLe hi hi') (hk : inHi hi k) : inHi hi' k := by
  cases hi' with
  | none => trivial
  | some b =>
    cases hi with
    | none => exact absurd h id
    | some a => exact klt_of_klt_of_kle hk h

theorem hiLe_of_inHi {hi : Option K} {m : K} (h : inHi hi m) : hiLe (some m) hi := by
  cases hi with
  | none => trivial
  | some a => exact kle_of_klt h

variable [LawfulEqOrd K]

theorem loLe_refl (lo : Option K) : loLe lo lo := by
  cases lo with
  | none => trivial
  | some a => exact kle_refl a

theorem hiLe_refl (hi : Option K) : hiLe hi hi := by
  cases hi with
  | none => trivial
  | some a => exact kle_refl a

theorem loLe_sepLo {lo' lo : Option K} (k : K) (h : loLe lo' lo) : loLe (sepLo lo' k) (sepLo lo k) := by
  cases lo' with
  | none => trivial
  | some a =>
    cases lo with
    | none => exact absurd h id
    | some b => exact kle_refl k

theorem loLe_sepLo_some (lo : Option K) (k : K) : loLe (sepLo lo k) (some k) := by
  cases lo with
  | none => trivial
  | some a => exact kle_refl k

theorem wfs_weaken_aux :
    (∀ (lo hi : Option K) (t : Tree K E), WFS lo hi t →
      ∀ lo' hi', loLe lo' lo → hiLe hi hi' → WFS lo' hi' t) ∧
    (∀ (lo hi : Option K) (k : K) (t : Tree K E) (rest : Forest K E), WFFS lo hi k t rest →
      ∀ lo' hi', loLe lo' lo → hiLe hi hi' → WFFS lo' hi' k t rest) := by
  apply wfs_induct
  case leaf =>
    intro lo hi p es hs hb lo' hi' hl hh
    exact WFS.leaf _ _ _ _ hs (fun e he => ⟨inLo_of_loLe hl (hb e he).1, inHi_of_hiLe hh (hb e he).2⟩)
  case branch =>
    intro lo hi p k t rest hlo hhi _ ih lo' hi' hl hh
    exact WFS.branch _ _ _ _ _ _ (inLo_of_loLe hl hlo) (inHi_of_hiLe hh hhi)
      (ih _ _ (loLe_sepLo k hl) hh)
  case emptyBranch =>
    intro lo hi p lo' hi' _ _
    exact WFS.emptyBranch _ _ _
  case last =>
    intro lo hi k t _ ih lo' hi' hl hh
    exact WFFS.last _ _ _ _ (ih _ _ hl hh)
  case cons =>
    intro lo hi k t k' t' rest hk hlo' hhi' _ _ iht ihr lo' hi' hl hh
    exact WFFS.cons _ _ _ _ _ _ _ hk (inLo_of_loLe hl hlo') (inHi_of_hiLe hh hhi')
      (iht _ _ hl (hiLe_refl _)) (ihr _ _ (loLe_refl _) hh)

theorem WFS.weaken {lo hi lo' hi' : Option K} {t : Tree K E} (h : WFS lo hi t)
    (hl : loLe lo' lo) (hh : hiLe hi hi') : WFS lo' hi' t :=
  wfs_weaken_aux.1 lo hi t h lo' hi' hl hh

theorem WFFS.weaken {lo hi lo' hi' : Option K} {k : K} {t : Tree K E} {rest : Forest K E}
    (h : WFFS lo hi k t rest) (hl : loLe lo' lo) (hh : hiLe hi hi') : WFFS lo' hi' k t rest :=
  wfs_weaken_aux.2 lo hi k t rest h lo' hi' hl hh

end

section
variable {K E : Type} [Ord K] [TransOrd K]

theorem WFFS.append_iff {hi : Option K} {k' : K} {t' : Tree K E} {s : Forest K E} (r : Forest K E)
    (lo : Option K) (k : K) (t : Tree K E) :
    WFFS lo hi k t (r.append (.cons k' t' s)) ↔
      WFFS lo (some k') k t r ∧ klt k k' = true ∧ inLo lo k' ∧ inHi hi k' ∧ WFFS (some k') hi k' t' s := by
  induction r using Forest.ind generalizing lo k t with
  | nil =>
    rw [Forest.append, WFFS.cons_iff, WFFS.last_iff]
    exact ⟨fun ⟨hk, hlo, hhi, ht, hr⟩ => ⟨ht, hk, hlo, hhi, hr⟩, fun ⟨ht, hk, hlo, hhi, hr⟩ => ⟨hk, hlo, hhi, ht, hr⟩⟩
  | cons a ta r ih =>
    constructor
    · intro h
      obtain ⟨hk, hlo, hhi, ht, hr⟩ := WFFS.cons_iff.1 h
      -- `k < a < k'`
      obtain ⟨hfront, hak, -, hhi', hback⟩ := (ih (some a) a ta).1 hr
      exact ⟨WFFS.cons_iff.2 ⟨hk, hlo, hak, ht, hfront⟩, klt_trans hk hak, inLo_of_kle hlo (kle_of_klt hak), hhi',
        hback⟩
    · rintro ⟨h, -, -, hhi, hr⟩
      obtain ⟨hka, hla, hak, ht, hfront⟩ := WFFS.cons_iff.1 h
      exact WFFS.cons_iff.2 ⟨hka, hla, inHi_of_klt hak hhi, ht,
        (ih (some a) a ta).2 ⟨hfront, hak, kle_of_klt hak, hhi, hr⟩⟩

/-- with `nebT` (an empty branch has no `WF`); so every Layer Q/T theorem applies to the trees of a commit -/
theorem wfs_wf (lo hi : Option K) (t : Tree K E) (h : WFS lo hi t) (hne : nebT t = true) : WF lo hi t := by
  -- `WFS` bounds the entries below a branch by `sepLo lo k`, `WF` by `lo`: the induction carries a weaker lower bound
  refine (wfs_induct
    (P := fun lo hi t => nebT t = true → ∀ lo' : Option K, (∀ x, inLo lo x → inLo lo' x) → WF lo' hi t)
    (Q := fun lo hi k t rest => nebT t = true → nebF rest = true →
      ∀ lo' : Option K, (∀ x, inLo lo x → inLo lo' x) → WFF lo' hi k t rest)
    ?leaf ?branch ?emptyBranch ?last ?cons).1 lo hi t h hne lo fun _ h => h
  case leaf =>
    intro lo hi p es hs hb _ lo' hw
    exact WF.leaf _ _ _ _ hs fun e he => ⟨hw _ (hb e he).1, (hb e he).2⟩
  case branch =>
    intro lo hi p k t rest hlo _ _ ih hne lo' hw
    rw [nebT, Bool.and_eq_true, nebF_cons] at hne
    exact WF.branch _ _ _ _ _ _ (ih hne.2.1 hne.2.2 lo' fun x hx => hw x (inLo_of_loLe (loLe_sepLo_self hlo) hx))
  case emptyBranch =>
    intro lo hi p hne
    exact absurd rfl (nebT_branch_iff.1 hne).1
  case last =>
    intro lo hi k t _ ih hne _ lo' hw
    exact WFF.last _ _ _ _ (ih hne lo' hw)
  case cons =>
    intro lo hi k t k' t' rest hk hlo hhi _ _ iht ihr hne hner lo' hw
    obtain ⟨hne', hner'⟩ := nebF_cons.1 hner
    exact WFF.cons _ _ _ _ _ _ _ hk (hw _ hlo) hhi (iht hne lo' hw) (ihr hne' hner' _ fun _ h => h)

end

section
variable {K E : Type} [Ord K] [TransOrd K] [LawfulEqOrd K]

theorem WFS.single {lo hi : Option K} {key : K} {t : Tree K E} (h : WFS lo hi t) (hlo : lo = none ∨ lo = some key)
    (hhi : inHi hi key) (pid : Nat) : WFS lo hi (.branch pid (.cons key t .nil)) := by
  rcases hlo with rfl | rfl
  · exact WFS.branch_iff.2 ⟨trivial, hhi, WFFS.last_iff.2 h⟩
  · exact WFS.branch_iff.2 ⟨kle_refl key, hhi, WFFS.last_iff.2 h⟩

theorem WFS.leaf_head {lo hi : Option K} {p : Nat} {k : K} {x : E} {r : List (K × E)}
    (h : WFS lo hi (.leaf p ((k, x) :: r))) :
    inLo lo k ∧ inHi hi k ∧ WFS (sepLo lo k) hi (.leaf p ((k, x) :: r)) := by
  obtain ⟨hs, hb⟩ := WFS.leaf_iff.1 h
  refine ⟨(hb _ List.mem_cons_self).1, (hb _ List.mem_cons_self).2,
    WFS.leaf_iff.2 ⟨hs, fun e he => ⟨?_, (hb e he).2⟩⟩⟩
  rcases List.mem_cons.1 he with rfl | he
  · exact inLo_sepLo (kle_refl _)
  · exact inLo_sepLo (kle_of_klt ((Spec.sorted_cons.1 hs).1 e he))

theorem WFS.leaf_cut {lo hi : Option K} {p : Nat} {c : List (K × E)} {m : K} {x : E} {r : List (K × E)}
    (h : WFS lo hi (.leaf p (c ++ (m, x) :: r))) :
    WFS lo (some m) (.leaf p c) ∧ WFS (some m) hi (.leaf p ((m, x) :: r)) := by
  obtain ⟨hs, hb⟩ := WFS.leaf_iff.1 h
  obtain ⟨hs1, hs2, hs3⟩ := Spec.sorted_append_iff.1 hs
  refine ⟨WFS.leaf_iff.2 ⟨hs1, fun e he =>
      ⟨(hb e (List.mem_append_left _ he)).1, hs3 e he (m, x) List.mem_cons_self⟩⟩,
    WFS.leaf_iff.2 ⟨hs2, fun e he => ⟨?_, (hb e (List.mem_append_right _ he)).2⟩⟩⟩
  rcases List.mem_cons.1 he with rfl | he
  · exact kle_refl _
  · exact kle_of_klt ((Spec.sorted_cons.1 hs2).1 e he)

theorem WFS.branch_head {lo hi : Option K} {p : Nat} {k : K} {t : Tree K E} {rest : Forest K E}
    (h : WFS lo hi (.branch p (.cons k t rest))) :
    inLo lo k ∧ inHi hi k ∧ WFS (sepLo lo k) hi (.branch p (.cons k t rest)) := by
  obtain ⟨h1, h2, h3⟩ := WFS.branch_iff.1 h
  refine ⟨h1, h2, WFS.branch_iff.2 ⟨inLo_sepLo (kle_refl k), h2, ?_⟩⟩
  rw [sepLo_sepLo]; exact h3

theorem WFS.branch_cut {lo hi : Option K} {p : Nat} {k : K} {t : Tree K E} {rc : List (K × Tree K E)}
    {m : K} {x : Tree K E} {r : List (K × Tree K E)}
    (h : WFS lo hi (.branch p (Forest.ofList ((k, t) :: rc ++ (m, x) :: r)))) :
    WFS lo (some m) (.branch p (Forest.ofList ((k, t) :: rc))) ∧
      WFS (some m) hi (.branch p (Forest.ofList ((m, x) :: r))) := by
  rw [List.cons_append, Forest.ofList, Forest.ofList_append] at h
  obtain ⟨h1, -, h3⟩ := WFS.branch_iff.1 h
  obtain ⟨hfront, hkm, -, hhi, hback⟩ := (WFFS.append_iff _ _ k t).1 h3
  exact ⟨WFS.branch_iff.2 ⟨h1, hkm, hfront⟩, WFS.branch_iff.2 ⟨kle_refl m, hhi, hback⟩⟩

end

section
variable {K E : Type} [Ord K]

theorem wffs_rel₂ {rest rest' : Forest K E}
    (hr : Forest.Rel₂ (fun a b => ∀ j : Option K × Option K, WFS j.1 j.2 a → WFS j.1 j.2 b) rest rest') :
    ∀ {lo hi : Option K} {k : K} {t t' : Tree K E}, (∀ j : Option K × Option K, WFS j.1 j.2 t → WFS j.1 j.2 t') →
      WFFS lo hi k t rest → WFFS lo hi k t' rest' := by
  induction hr with
  | nil =>
    intro lo hi k t t' ht h
    exact WFFS.last_iff.2 (ht (lo, hi) (WFFS.last_iff.1 h))
  | cons k' hR _ ih =>
    intro lo hi k t t' ht h
    obtain ⟨hk, hlo, hhi, hw, hrest⟩ := WFFS.cons_iff.1 h
    exact WFFS.cons_iff.2 ⟨hk, hlo, hhi, ht (lo, _) hw, ih hR hrest⟩

theorem wfs_childCongr (ok : Nat → Nat → Prop) :
    ChildCongr (fun (j : Option K × Option K) (t : Tree K E) => WFS j.1 j.2 t) ok := by
  intro j p p' kids kids' _ h hr
  cases hr with
  | nil => exact .emptyBranch _ _ _
  | cons k hR hr =>
    obtain ⟨hlo, hhi, hf⟩ := WFS.branch_iff.1 h
    exact WFS.branch_iff.2 ⟨hlo, hhi, wffs_rel₂ hr hR hf⟩

end

/-! `TightF` and `TightMF` thread nothing but each entry's own key: facts about an entry list are facts about
the members of `toList`. -/

section
variable {K E : Type} [Ord K]

/-- `TightMF` stated on a whole entry list: the conclusion of `tightMFB_sound` -/
def TightMForest (lo : Option K) : Forest K E → Prop
  | .nil => False
  | .cons k t rest => TightMF lo k t rest

theorem tightF_iff {rest : Forest K E} {lo : Option K} {k : K} {t : Tree K E} :
    TightF lo k t rest ↔ TightT lo t ∧ ∀ e ∈ rest.toList, TightT (some e.1) e.2 := by
  induction rest using Forest.ind generalizing lo k t with
  | nil =>
    exact ⟨fun h => by cases h with | last _ _ _ ht => exact ⟨ht, fun _ he => nomatch he⟩,
      fun h => .last _ _ _ h.1⟩
  | cons k' t' r ih =>
    rw [Forest.toList_cons, List.forall_mem_cons, ← ih]
    exact ⟨fun h => by cases h with | cons _ _ _ _ _ _ ht hr => exact ⟨ht, hr⟩,
      fun h => .cons _ _ _ _ _ _ h.1 h.2⟩

theorem tightMF_iff {rest : Forest K E} {lo : Option K} {k : K} {t : Tree K E} :
    TightMF lo k t rest ↔ TightMT lo t ∧ ∀ e ∈ rest.toList, TightMT (some e.1) e.2 := by
  induction rest using Forest.ind generalizing lo k t with
  | nil =>
    exact ⟨fun h => by cases h with | last _ _ _ ht => exact ⟨ht, fun _ he => nomatch he⟩,
      fun h => .last _ _ _ h.1⟩
  | cons k' t' r ih =>
    rw [Forest.toList_cons, List.forall_mem_cons, ← ih]
    exact ⟨fun h => by cases h with | cons _ _ _ _ _ _ ht hr => exact ⟨ht, hr⟩,
      fun h => .cons _ _ _ _ _ _ h.1 h.2⟩

theorem TightT.branch_iff {lo : Option K} {p : Nat} {k : K} {t : Tree K E} {rest : Forest K E} :
    TightT lo (.branch p (.cons k t rest)) ↔
      tightKey lo k ∧ TightT (sepLo lo k) t ∧ ∀ e ∈ rest.toList, TightT (some e.1) e.2 :=
  ⟨fun h => by cases h with | branch _ _ _ _ _ hk hf => exact ⟨hk, tightF_iff.1 hf⟩,
   fun ⟨hk, hf⟩ => .branch _ _ _ _ _ hk (tightF_iff.2 hf)⟩

/-- on the leftmost spine a branch demands nothing of its first key -/
theorem tightT_none_ofList_iff {p : Nat} {k : K} {t : Tree K E} {l : List (K × Tree K E)} :
    TightT none (.branch p (Forest.ofList ((k, t) :: l))) ↔ TightT none t ∧ ∀ q ∈ l, TightT (some q.1) q.2 := by
  rw [Forest.ofList, TightT.branch_iff, Forest.toList_ofList]
  exact and_iff_right trivial

theorem TightMF.second {lo : Option K} {k k' : K} {t x : Tree K E} {rest : Forest K E}
    (h : TightMF lo k t (.cons k' x rest)) : TightMT (some k') x :=
  (tightMF_iff.1 h).2 (k', x) List.mem_cons_self

theorem TightT.weaken_none {lo : Option K} {t : Tree K E} (h : TightT lo t) : TightT none t := by
  induction t using Tree.ind_toList generalizing lo with
  | leaf p es => exact TightT.leaf _ _ _
  | branch p kids ih =>
    cases kids with
    | nil => exact TightT.emptyBranch _ _
    | cons k t rest =>
      obtain ⟨-, ht, hr⟩ := TightT.branch_iff.1 h
      exact TightT.branch_iff.2 ⟨trivial, ih (k, t) List.mem_cons_self ht, hr⟩

theorem TightF.weaken_none {lo : Option K} {k : K} {t : Tree K E} {rest : Forest K E}
    (h : TightF lo k t rest) : TightF none k t rest :=
  tightF_iff.2 ⟨(tightF_iff.1 h).1.weaken_none, (tightF_iff.1 h).2⟩

theorem TightT.repid {lo : Option K} {p : Nat} {kids : Forest K E} (h : TightT lo (.branch p kids))
    (p' : Nat) : TightT lo (.branch p' kids) := by
  cases h with
  | emptyBranch => exact TightT.emptyBranch _ _
  | branch _ _ _ _ _ hk hf => exact TightT.branch _ _ _ _ _ hk hf

theorem TightT.of_own (key : Bytes) (c : List (Bytes × Tree Bytes E)) (h : ∀ q ∈ c, TightT (some q.1) q.2) :
    TightT (some (firstKeyOr key c)) (.branch 0 (Forest.ofList c)) := by
  cases c with
  | nil => exact TightT.emptyBranch _ _
  | cons a r =>
    rw [Forest.ofList, TightT.branch_iff, Forest.toList_ofList]
    exact ⟨kle_refl a.1, List.forall_mem_cons.1 h⟩

theorem TightT.none_of_own (l : List (Bytes × Tree Bytes E)) (h : ∀ q ∈ l, TightT (some q.1) q.2) (pid : Nat) :
    TightT none (.branch pid (Forest.ofList l)) :=
  (TightT.of_own [] l h).weaken_none.repid pid

theorem TightMT.weaken_none {lo : Option K} {t : Tree K E} (h : TightMT lo t) : TightMT none t := by
  induction t using Tree.ind_toList generalizing lo with
  | leaf p es => exact TightMT.leaf _ _ _
  | branch p kids ih =>
    cases h with
    | unmat _ _ _ hm ht => exact TightMT.unmat _ _ _ hm ht.weaken_none
    | emptyBranch => exact TightMT.emptyBranch _ _
    | branch _ _ k t rest hm hf =>
      obtain ⟨ht, hr⟩ := tightMF_iff.1 hf
      exact TightMT.branch _ _ _ _ _ hm (tightMF_iff.2 ⟨ih (k, t) List.mem_cons_self ht, hr⟩)

theorem TightMT.weaken_sepLo {k : K} {t : Tree K E} (h : TightMT (some k) t) (lo : Option K) :
    TightMT (sepLo lo k) t := by
  cases lo with
  | none => exact h.weaken_none
  | some l => exact h

theorem TightT.toM {lo : Option K} {t : Tree K E} (h : TightT lo t) : TightMT lo t := by
  induction t using Tree.ind_toList generalizing lo with
  | leaf p es => exact TightMT.leaf _ _ _
  | branch p kids ih =>
    by_cases hm : nodeMat p = true
    · cases kids with
      | nil => exact TightMT.emptyBranch _ _
      | cons k t rest =>
        obtain ⟨-, ht, hr⟩ := TightT.branch_iff.1 h
        exact TightMT.branch _ _ _ _ _ hm (tightMF_iff.2
          ⟨ih (k, t) List.mem_cons_self ht, fun e he => ih e (List.mem_cons_of_mem _ he) (hr e he)⟩)
    · exact TightMT.unmat _ _ _ (by simpa using hm) h

theorem TightF.toM {lo : Option K} {k : K} {t : Tree K E} {rest : Forest K E}
    (h : TightF lo k t rest) : TightMF lo k t rest :=
  tightMF_iff.2 ⟨(tightF_iff.1 h).1.toM, fun e he => ((tightF_iff.1 h).2 e he).toM⟩

theorem TightMT.tight_of_unmat {lo : Option K} {t : Tree K E} (h : TightMT lo t)
    (hm : nodeMat t.pid = false) : TightT lo t := by
  cases h with
  | leaf _ p es => exact TightT.leaf _ _ _
  | unmat _ p kids _ ht => exact ht
  | emptyBranch _ p => exact TightT.emptyBranch _ _
  | branch _ p k t rest hp _ =>
    simp only [Tree.pid] at hm
    rw [hm] at hp
    exact absurd hp (by simp)

theorem TightMT.kids {lo : Option K} {p : Nat} {k : K} {t : Tree K E} {rest : Forest K E}
    (h : TightMT lo (.branch p (.cons k t rest))) : TightMF (sepLo lo k) k t rest := by
  cases h with
  | unmat _ _ _ _ ht =>
    cases ht with
    | branch _ _ _ _ _ _ hf => exact hf.toM
  | branch _ _ _ _ _ _ hf => exact hf

/-- off the leftmost spine `sepLo (some m) k = some k`: the first child too is under its own key -/
theorem TightMT.entries_own {m : K} {p : Nat} {kids : Forest K E} (h : TightMT (some m) (.branch p kids)) :
    ∀ e ∈ kids.toList, TightMT (some e.1) e.2 := by
  cases kids with
  | nil => exact fun _ he => nomatch he
  | cons k t rest => exact List.forall_mem_cons.2 (tightMF_iff.1 h.kids)

theorem TightMT.remat {lo : Option K} {p : Nat} {kids : Forest K E} (h : TightMT lo (.branch p kids))
    {p' : Nat} (hp' : nodeMat p' = true) : TightMT lo (.branch p' kids) := by
  cases kids with
  | nil => exact TightMT.emptyBranch _ _
  | cons k t rest => exact TightMT.branch _ _ _ _ _ hp' h.kids

theorem tight_childCongr (ok : Nat → Nat → Prop) : ChildCongr (fun lo (t : Tree K E) => TightT lo t) ok := by
  intro lo p p' kids kids' _ h hr
  cases hr with
  | nil => exact .emptyBranch _ _
  | cons k hR hr =>
    obtain ⟨hk, ht, hrest⟩ := TightT.branch_iff.1 h
    exact TightT.branch_iff.2 ⟨hk, hR _ ht, hr.allK (fun k _ _ hab => hab (some k)) hrest⟩

/-- towards a materialised branch only: an unmaterialised one would have to be `TightT`, which `TightMT` of its
children does not give -/
theorem tightM_childCongr :
    ChildCongr (fun lo (t : Tree K E) => TightMT lo t) (fun _ p' => nodeMat p' = true) := by
  intro lo p p' kids kids' hp' h hr
  cases hr with
  | nil => exact .emptyBranch _ _
  | cons k hR hr =>
    obtain ⟨ht, hrest⟩ := tightMF_iff.1 h.kids
    exact .branch _ _ _ _ _ hp' (tightMF_iff.2 ⟨hR _ ht, hr.allK (fun k _ _ hab => hab (some k)) hrest⟩)

/-- the invariant of a bucket's tree between transactions and while a transaction edits it -/
structure TreeInv (t : Tree K E) : Prop where
  sep : WFS none none t
  tight : TightT none t
  uniform : ∃ d, UniformT d t

end

section
variable {K E : Type} [Ord K]

theorem wffsb_sound_of {rest : Forest K E} {lo hi : Option K} {k : K} {t : Tree K E}
    (H : ∀ e ∈ (k, t) :: rest.toList, ∀ lo hi, wfsb lo hi e.2 = true → WFS lo hi e.2)
    (h : wffsb lo hi (.cons k t rest) = true) : WFFS lo hi k t rest := by
  induction rest using Forest.ind generalizing lo k t with
  | nil => exact .last _ _ _ _ (H (k, t) List.mem_cons_self _ _ (by simpa only [wffsb] using h))
  | cons k' t' rest' ih =>
    simp only [wffsb, Bool.and_eq_true] at h
    obtain ⟨⟨⟨⟨hk, hlo⟩, hhi⟩, ht⟩, hr⟩ := h
    exact WFFS.cons_iff.2 ⟨hk, (inLoB_iff lo k').mp hlo, (inHiB_iff hi k').mp hhi,
      H (k, t) List.mem_cons_self _ _ ht, ih (fun e he => H e (List.mem_cons_of_mem _ he)) hr⟩

theorem wfsb_sound (lo hi : Option K) (t : Tree K E) (h : wfsb lo hi t = true) : WFS lo hi t := by
  induction t using Tree.ind_toList generalizing lo hi with
  | leaf p es =>
    simp only [wfsb] at h
    exact WFS.leaf lo hi p es (leafTest_sound h).1 (leafTest_sound h).2
  | branch p kids ih =>
    cases kids with
    | nil => exact WFS.emptyBranch lo hi p
    | cons k t' rest =>
      simp only [wfsb, Bool.and_eq_true] at h
      exact WFS.branch lo hi p k t' rest ((inLoB_iff lo k).mp h.1.1) ((inHiB_iff hi k).mp h.1.2)
        (wffsb_sound_of ih h.2)

end

section
variable {K E : Type} [Ord K] [TransOrd K] [LawfulEqOrd K] [DecidableEq K]

/-- `WFFS` stated on a whole forest: the conclusion of `wffsb_sound` -/
def WFSForest (lo hi : Option K) : Forest K E → Prop
  | .nil => False
  | .cons k t rest => WFFS lo hi k t rest

set_option linter.unusedSectionVars false in
theorem wffsb_sound (lo hi : Option K) (f : Forest K E)
    (h : wffsb lo hi f = true) : WFSForest lo hi f := by
  cases f with
  | nil => simp [wffsb] at h
  | cons k t rest => exact wffsb_sound_of (fun e _ lo hi => wfsb_sound lo hi e.2) h

end

section
variable {K E : Type} [Ord K]

theorem tightKeyB_iff (lo : Option K) (k : K) : tightKeyB lo k = true ↔ tightKey lo k := by
  cases lo with
  | none => exact ⟨fun _ => trivial, fun _ => rfl⟩
  | some l => exact Iff.rfl

theorem tightFB_cons_iff {rest : Forest K E} {lo : Option K} {k : K} {t : Tree K E} :
    tightFB lo (.cons k t rest) = true ↔
      tightB lo t = true ∧ ∀ e ∈ rest.toList, tightB (some e.1) e.2 = true := by
  induction rest using Forest.ind generalizing lo k t with
  | nil => simp [tightFB]
  | cons k' t' r ih => simp only [tightFB, Bool.and_eq_true, ih, Forest.toList_cons, List.forall_mem_cons]

theorem tightMFB_cons_iff {rest : Forest K E} {lo : Option K} {k : K} {t : Tree K E} :
    tightMFB lo (.cons k t rest) = true ↔
      tightMB lo t = true ∧ ∀ e ∈ rest.toList, tightMB (some e.1) e.2 = true := by
  induction rest using Forest.ind generalizing lo k t with
  | nil => simp [tightMFB]
  | cons k' t' r ih => simp only [tightMFB, Bool.and_eq_true, ih, Forest.toList_cons, List.forall_mem_cons]

theorem tightB_iff (lo : Option K) (t : Tree K E) : tightB lo t = true ↔ TightT lo t := by
  induction t using Tree.ind_toList generalizing lo with
  | leaf p es => exact ⟨fun _ => TightT.leaf _ _ _, fun _ => by simp only [tightB]⟩
  | branch p kids ih =>
    cases kids with
    | nil => exact ⟨fun _ => TightT.emptyBranch _ _, fun _ => by simp only [tightB]⟩
    | cons k t rest =>
      have iht := ih (k, t) List.mem_cons_self
      have ihr := fun e he => ih e (List.mem_cons_of_mem (k, t) he)
      simp only [tightB, Bool.and_eq_true, tightKeyB_iff, tightFB_cons_iff]
      constructor
      · rintro ⟨hk, ht, hr⟩
        exact TightT.branch_iff.2 ⟨hk, (iht _).1 ht, fun e he => (ihr e he _).1 (hr e he)⟩
      · intro h
        obtain ⟨hk, ht, hr⟩ := TightT.branch_iff.1 h
        exact ⟨hk, (iht _).2 ht, fun e he => (ihr e he _).2 (hr e he)⟩

theorem tightFB_iff (lo : Option K) (k : K) (t : Tree K E) (rest : Forest K E) :
    tightFB lo (.cons k t rest) = true ↔ TightF lo k t rest := by
  simp only [tightFB_cons_iff, tightF_iff, tightB_iff]

theorem tightB_sound (lo : Option K) (t : Tree K E) (h : tightB lo t = true) : TightT lo t :=
  (tightB_iff lo t).1 h

theorem tightFB_sound (lo : Option K) (f : Forest K E) (h : tightFB lo f = true) : TightForest lo f := by
  cases f with
  | nil => simp [tightFB] at h
  | cons k t rest => exact (tightFB_iff lo k t rest).1 h

theorem tightB_complete (lo : Option K) (t : Tree K E) (h : TightT lo t) : tightB lo t = true :=
  (tightB_iff lo t).2 h

theorem tightFB_complete (lo : Option K) (k : K) (t : Tree K E) (rest : Forest K E)
    (h : TightF lo k t rest) : tightFB lo (.cons k t rest) = true :=
  (tightFB_iff lo k t rest).2 h

end

section
variable {K E : Type} [Ord K] [TransOrd K] [LawfulEqOrd K] [DecidableEq K]

set_option linter.unusedSectionVars false in
theorem tightMB_sound (lo : Option K) (t : Tree K E) (h : tightMB lo t = true) : TightMT lo t := by
  induction t using Tree.ind_toList generalizing lo with
  | leaf p es => exact TightMT.leaf lo p es
  | branch p kids ih =>
    by_cases hm : nodeMat p = true
    · cases kids with
      | nil => exact TightMT.emptyBranch lo p
      | cons k t' rest =>
        simp only [tightMB, hm, Bool.not_true, Bool.false_eq_true, if_false, tightMFB_cons_iff] at h
        exact TightMT.branch lo p k t' rest hm (tightMF_iff.2
          ⟨ih (k, t') List.mem_cons_self _ h.1, fun e he => ih e (List.mem_cons_of_mem _ he) _ (h.2 e he)⟩)
    · have hm' : nodeMat p = false := by simpa using hm
      -- `unfold`: with `kids` a variable `simp only [tightMB, …]` builds a term the kernel rejects, and
      -- `rw [tightMB]` finds no equation
      unfold tightMB at h
      simp only [hm', Bool.not_false, if_true] at h
      exact TightMT.unmat lo p kids hm' (tightB_sound lo _ h)

theorem tightMFB_sound (lo : Option K) (f : Forest K E) (h : tightMFB lo f = true) : TightMForest lo f := by
  cases f with
  | nil => simp [tightMFB] at h
  | cons k t rest =>
    exact tightMF_iff.2 ⟨tightMB_sound _ _ (tightMFB_cons_iff.1 h).1,
      fun e he => tightMB_sound _ _ ((tightMFB_cons_iff.1 h).2 e he)⟩

end

section
variable {K E : Type}

theorem uniformFB_sound_of {f : Forest K E} (H : ∀ e ∈ f.toList, ∀ d, uniformB e.2 = some d → UniformT d e.2)
    {o : Option Nat} (h : uniformFB f = some o) :
    match o with
    | none => f = .nil
    | some d => UniformF d f := by
  induction f using Forest.ind generalizing o with
  | nil => cases h; rfl
  | cons k t rest ih =>
    have ihr := fun o => ih (o := o) fun e he => H e (List.mem_cons_of_mem _ he)
    simp only [uniformFB] at h
    split at h
    · rename_i d ht hr
      cases h
      cases ihr _ hr
      exact .cons _ _ _ _ (H (k, t) List.mem_cons_self d ht) (.nil d)
    · rename_i d d' ht hr
      split at h
      · rename_i hdd
        cases h
        subst hdd
        exact .cons _ _ _ _ (H (k, t) List.mem_cons_self d ht) (ihr _ hr)
      · cases h
    · cases h

theorem uniformB_sound (t : Tree K E) (d : Nat) (h : uniformB t = some d) : UniformT d t := by
  induction t using Tree.ind_toList generalizing d with
  | leaf p es => cases h; exact .leaf _ _
  | branch p kids ih =>
    simp only [uniformB] at h
    cases hk : uniformFB kids with
    | none => rw [hk] at h; cases h
    | some o =>
      have hs := uniformFB_sound_of ih hk
      rw [hk] at h
      cases o with
      | none => cases h; cases hs; exact .branch _ _ _ (.nil 0)
      | some d' => cases h; exact .branch _ _ _ hs

theorem uniformFB_sound (f : Forest K E) (o : Option Nat) (h : uniformFB f = some o) :
    match o with
    | none => f = .nil
    | some d => UniformF d f :=
  uniformFB_sound_of (fun e _ => uniformB_sound e.2) h

end
end Jamm
