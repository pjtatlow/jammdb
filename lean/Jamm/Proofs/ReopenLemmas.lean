/-
`Sys.reopen` frees everything that was free or pending at close and keeps the header; the invariant, coverage and the
page mark survive it, so the history-level theorems extend to histories with reopens (`Sys.runSegs`).
-/
import Jamm.Model.Reopen
import Jamm.Proofs.PlateauLemmas

namespace Jamm

/-- a history with reopens: segments of events separated by close/reopen (reopen after every segment; a
final reopen is harmless, and an empty segment list is no reopen at all) -/
def Sys.runSegs (s : Sys) : List (List Ev) → Option Sys
  | [] => some s
  | seg :: rest => match s.runEvs seg with
      | some s' => (s'.reopen).runSegs rest
      | none => none

theorem reopen_cur (s : Sys) : (s.reopen).cur = s.cur := rfl

theorem reopen_readers (s : Sys) : (s.reopen).readers = [] := rfl

theorem reopen_numPages (s : Sys) : (s.reopen).numPages = s.numPages := rfl

theorem reopen_pending (s : Sys) : (s.reopen).shared.pending = [] := rfl

theorem reopen_pendingPages (s : Sys) : (s.reopen).shared.pendingPages = [] := rfl

theorem mem_reopen_free (s : Sys) (p : Nat) :
    p ∈ (s.reopen).shared.free ↔ (p ∈ s.shared.free ∨ p ∈ s.shared.pendingPages) := by
  show p ∈ (FL.init s.shared.pages).free ↔ _
  rw [FL.mem_init_free, FL.mem_pages]

/-- the reopened state without the sort; also the form that evaluates under `decide`: `List.mergeSort` is defined by
well-founded recursion and does not reduce in the kernel -/
theorem reopen_eq (s : Sys) :
    s.reopen = { s with shared := FL.init (s.shared.free ++ s.shared.pendingPages), readers := [] } := by
  unfold Sys.reopen
  rw [FL.init_congr s.shared.pages (s.shared.free ++ s.shared.pendingPages)
    (fun p => by rw [FL.mem_pages, List.mem_append])]

/-- in the form `Sys.pages_perm` takes: the mark stays, so the extension is empty -/
theorem reopen_pages {s : Sys} (hi : s.Inv) :
    (s.reopen).pages.Perm (s.pages ++ List.range' s.numPages ((s.reopen).numPages - s.numPages)) := by
  rw [reopen_numPages, Nat.sub_self, List.range'_zero, List.append_nil, Sys.pages, reopen_cur, reopen_pendingPages,
    List.append_nil, Sys.pages, List.append_assoc]
  exact ((List.perm_ext_iff_of_nodup (pairwise_lt_nodup (FL.init_free_pairwise _)) hi.ndFP).2 fun p =>
    (mem_reopen_free s p).trans List.mem_append.symm).append_left _

theorem Sys.Inv.reopen {s : Sys} (hi : s.Inv) : (s.reopen).Inv :=
  have ⟨nd, rng, _⟩ := Sys.pages_perm (s' := s.reopen) hi (Nat.le_refl _) (reopen_pages hi)
  { ascFree := FL.init_free_pairwise _
    ascKeys := List.Pairwise.nil
    keysLe := fun _ he => nomatch he
    nd := nd
    rng := rng
    rd := fun _ hr => nomatch hr
    np := hi.np }

theorem Sys.Covers.reopen {s : Sys} (h : s.Covers) (hi : s.Inv) : (s.reopen).Covers :=
  (Sys.pages_perm (s' := s.reopen) hi (Nat.le_refl _) (reopen_pages hi)).2.2 h

theorem reopen_nonFree_le (s : Sys) (hi : s.invB = true) : (s.reopen).nonFree ≤ s.nonFree := by
  rw [invB_iff] at hi
  have hlen : s.shared.free.length ≤ (s.reopen).shared.free.length :=
    (pairwise_lt_nodup hi.ascFree).length_le_of_subset (fun p hp => (mem_reopen_free s p).2 (Or.inl hp))
  exact Nat.sub_le_sub_left hlen _

theorem eq_stepAll_of_runEvs (s : Sys) (evs : List Ev) (s' : Sys) (h : s.runEvs evs = some s') :
    s' = s.stepAll evs :=
  Sys.runEvs_induct (motive := fun s evs => s' = s.stepAll evs) rfl (fun _ _ _ _ ih => ih) h

theorem Sys.runSegs_induct_inv {motive : Sys → List (List Ev) → Prop} {s' : Sys}
    (nil : s'.Inv → motive s' [])
    (cons : ∀ (s : Sys) (seg : List Ev) (rest : List (List Ev)) (s1 : Sys), s.Inv → s.runEvs seg = some s1 →
      s1.Inv → motive s1.reopen rest → motive s (seg :: rest))
    {s : Sys} {segs : List (List Ev)} (hi : s.Inv) (h : s.runSegs segs = some s') : motive s segs := by
  fun_induction Sys.runSegs s segs with
  | case1 s => cases h; exact nil hi
  | case2 s seg rest s1 h1 ih => exact cons s seg rest s1 hi h1 (hi.run h1) (ih (hi.run h1).reopen h)
  | case3 s seg rest h1 => cases h

theorem Sys.Inv.runSegs {s s' : Sys} {segs : List (List Ev)} (hi : s.Inv) (h : s.runSegs segs = some s') :
    s'.Inv :=
  Sys.runSegs_induct_inv (motive := fun _ _ => s'.Inv) id (fun _ _ _ _ _ _ _ ih => ih) hi h

theorem Sys.Covers.runSegs {s s' : Sys} {segs : List (List Ev)} (hcov : s.Covers) (hi : s.Inv)
    (h : s.runSegs segs = some s') : s'.Covers :=
  Sys.runSegs_induct_inv (motive := fun s _ => s.Covers → s'.Covers) (fun _ h => h)
    (fun _ _ _ _ hi h1 hi1 ih hcov => ih ((hcov.run hi h1).reopen hi1)) hi h hcov

theorem plateau_runSegs {s s' : Sys} {segs : List (List Ev)} {K n M : Nat} (hi : s.Inv)
    (h : s.runSegs segs = some s') (hK : requestsLeSegs K segs = true) (hn : s.nonFreeLeSegs n segs = true)
    (hb : s.numPages ≤ max M (K * (n + 2) + 1)) : s'.numPages ≤ max M (K * (n + 2) + 1) := by
  refine Sys.runSegs_induct_inv (motive := fun s segs => requestsLeSegs K segs = true → s.nonFreeLeSegs n segs = true →
    s.numPages ≤ max M (K * (n + 2) + 1) → s'.numPages ≤ max M (K * (n + 2) + 1))
    (fun _ _ _ hb => hb) ?_ hi h hK hn hb
  intro s seg rest s1 hi h1 _ ih hK hn hb
  simp only [requestsLeSegs, Sys.nonFreeLeSegs, Bool.and_eq_true] at hK hn
  -- the mark is in the header, which a reopen does not touch
  exact ih hK.2 (eq_stepAll_of_runEvs s seg s1 h1 ▸ hn.2) (plateau_run hi h1 hK.1 hn.1 hb : s1.numPages ≤ _)

end Jamm
