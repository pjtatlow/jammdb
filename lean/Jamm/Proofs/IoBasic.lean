/-
The images a commit passes through and what recovery finds in them.  `PreLike c i`: `i` still looks like the pre-commit
image to recovery; every crash image before the header write is `PreLike` (`crash_pageWrites_preLike`).  `dataImg`: all
data writes durable; `postImg`: and the header.  Of `CommitCtx.Ok` the proofs use `slot01`, `cur`, `newest`, `preIntact`,
`cow`, `dirtyFun`, `post` and `newer.1`; what the overwritten slot held (`hold`, `other`, `newer.2`) and `nonzero` play
no part.
-/
import Jamm.Model.Io
import Jamm.Proofs.ListLemmas

namespace Jamm

abbrev pageWrites (l : SnapDef) : List IoOp := l.map (fun e => IoOp.writePage e.1 e.2)

theorem safeShape_eq (c : CommitCtx) :
    safeShape c = pageWrites c.dirty ++ [.sync, .writeHdr (1 - c.slot) c.hpost, .sync] := rfl

@[simp] theorem Img.setPage_slot0 (i : Img) (p c : Nat) : (i.setPage p c).slot0 = i.slot0 := rfl
@[simp] theorem Img.setPage_slot1 (i : Img) (p c : Nat) : (i.setPage p c).slot1 = i.slot1 := rfl
theorem Img.setPage_page (i : Img) (p c q : Nat) :
    (i.setPage p c).page q = if q = p then c else i.page q := rfl

@[simp] theorem Img.setSlot_page (i : Img) (s : Nat) (v : Slot) : (i.setSlot s v).page = i.page := by
  unfold Img.setSlot; split <;> rfl

theorem recover_congr {i j : Img} (h0 : i.slot0 = j.slot0) (h1 : i.slot1 = j.slot1) :
    recover i = recover j := by
  unfold recover; rw [h0, h1]

theorem Img.apply_writePage (i : Img) (p c : Nat) (f : Fate) :
    (i.apply (.writePage p c) f).slot0 = i.slot0 ∧ (i.apply (.writePage p c) f).slot1 = i.slot1 ∧
      ∀ q, q ≠ p → (i.apply (.writePage p c) f).page q = i.page q := by
  cases f
  · exact ⟨rfl, rfl, fun _ _ => rfl⟩
  · exact ⟨rfl, rfl, fun _ hq => if_neg hq⟩
  · exact ⟨rfl, rfl, fun _ hq => if_neg hq⟩

theorem foldl_full_eq_zip_replicate : ∀ (l : List IoOp) (i : Img),
    l.foldl (fun i w => i.apply w .full) i =
      (l.zip (List.replicate l.length Fate.full)).foldl (fun i wf => i.apply wf.1 wf.2) i := by
  intro l
  induction l with
  | nil => intro i; rfl
  | cons w l ih => intro i; simp [List.replicate_succ, ih]

/-- a kill does not see sync boundaries -/
theorem Disk.kill_run (ops : List IoOp) :
    ∀ d : Disk, (d.run ops).kill = ops.foldl (fun i w => i.apply w .full) d.kill := by
  induction ops with
  | nil => intro d; rfl
  | cons w ops ih =>
    intro d
    refine (ih (d.exec w)).trans (congrArg (ops.foldl _) ?_)
    cases w with
    | sync => rfl
    | _ => exact List.foldl_append

theorem Disk.kill_eq_crash (d : Disk) :
    d.kill = d.crash (List.replicate d.pending.length Fate.full) := by
  unfold Disk.kill Disk.crash; exact foldl_full_eq_zip_replicate _ _

theorem foldl_full_page_eq (e : Nat × Nat) (l : SnapDef) (i : Img)
    (h : e ∈ l ∨ i.page e.1 = e.2) (hf : ∀ f ∈ l, f.1 = e.1 → f.2 = e.2) :
    ((pageWrites l).foldl (fun i w => i.apply w .full) i).page e.1 = e.2 := by
  induction l generalizing i with
  | nil => exact h.resolve_left List.not_mem_nil
  | cons g l ih =>
    refine ih (i.setPage g.1 g.2) ?_ fun f hfm => hf f (List.mem_cons_of_mem _ hfm)
    -- invariant `h`: `e` is still to come, or the page already holds `e.2`; a later write to that page writes `e.2`
    -- again (`hf`)
    rw [Img.setPage_page]
    rcases h with h | h
    · rcases List.mem_cons.1 h with rfl | h
      · exact .inr (if_pos rfl)
      · exact .inl h
    · right
      split
      · next hg => exact hf g List.mem_cons_self hg.symm
      · exact h

theorem crash_pageWrites_keeps {γ : Type} (g : Img → γ) (i : Img) (l : SnapDef) (fates : List Fate)
    (h : ∀ e ∈ l, ∀ (j : Img) (f : Fate), g (j.apply (.writePage e.1 e.2) f) = g j) :
    g (({ durable := i, pending := pageWrites l } : Disk).crash fates) = g i := by
  refine foldl_unchanged _ g _ (fun wf hwf j => ?_) i
  obtain ⟨e, he, hw⟩ := List.mem_map.1 (List.of_mem_zip (a := wf.1) (b := wf.2) hwf).1
  rw [← hw]
  exact h e he j wf.2

/-- all data writes durable, header not yet -/
def CommitCtx.dataImg (c : CommitCtx) : Img := (pageWrites c.dirty).foldl (fun i w => i.apply w .full) c.img0

def CommitCtx.postImg (c : CommitCtx) : Img := c.dataImg.setSlot (1 - c.slot) (.good c.hpost)

structure PreLike (c : CommitCtx) (i : Img) : Prop where
  s0 : i.slot0 = c.img0.slot0
  s1 : i.slot1 = c.img0.slot1
  pages : ∀ q, (∀ e ∈ c.dirty, e.1 ≠ q) → i.page q = c.img0.page q

theorem intact_pre {c : CommitCtx} (hc : c.Ok) {i : Img}
    (pages : ∀ q, (∀ e ∈ c.dirty, e.1 ≠ q) → i.page q = c.img0.page q) : intact i c.sdPre := by
  intro f hf
  rw [pages f.1 (fun e he => hc.cow e he f hf)]
  exact hc.preIntact f hf

theorem PreLike.atomic {c : CommitCtx} (hc : c.Ok) {i : Img} (h : PreLike c i) : Atomic c i :=
  Or.inl ⟨(recover_congr h.s0 h.s1).trans hc.newest, intact_pre hc h.pages⟩

theorem crash_pageWrites_preLike (c : CommitCtx) (l : SnapDef) (hl : ∀ e ∈ l, e ∈ c.dirty) (fates : List Fate) :
    PreLike c (({ durable := c.img0, pending := pageWrites l } : Disk).crash fates) :=
  ⟨crash_pageWrites_keeps Img.slot0 _ l fates fun e _ j f => (j.apply_writePage e.1 e.2 f).1,
   crash_pageWrites_keeps Img.slot1 _ l fates fun e _ j f => (j.apply_writePage e.1 e.2 f).2.1,
   fun q hq => crash_pageWrites_keeps (·.page q) _ l fates fun e he j f =>
     (j.apply_writePage e.1 e.2 f).2.2 q (hq e (hl e he)).symm⟩

theorem dataImg_preLike (c : CommitCtx) : PreLike c c.dataImg := by
  have := crash_pageWrites_preLike c c.dirty (fun _ h => h)
    (List.replicate (pageWrites c.dirty).length Fate.full)
  rw [← Disk.kill_eq_crash] at this
  exact this

theorem dataImg_dirty {c : CommitCtx} (hc : c.Ok) : ∀ e ∈ c.dirty, c.dataImg.page e.1 = e.2 := by
  intro e he
  exact foldl_full_page_eq e c.dirty c.img0 (Or.inl he) (fun f hf h => hc.dirtyFun f hf e he h)

theorem intact_post {c : CommitCtx} (hc : c.Ok) {i : Img} (hp : i.page = c.dataImg.page) :
    intact i c.sdPost := by
  intro e he
  rw [hp]
  rcases hc.post e he with h | ⟨h, hd⟩
  · exact dataImg_dirty hc e h
  · rw [(dataImg_preLike c).pages e.1 hd]
    exact hc.preIntact e h

theorem recover_setSlot {c : CommitCtx} (hc : c.Ok) {i : Img} (hi : PreLike c i) (v : Slot)
    (hv : ∀ h, v = .good h → c.hpre.txId < h.txId) :
    recover (i.setSlot (1 - c.slot) v) = some (match v with | .good h => h | .bad => c.hpre) := by
  have hcur := hc.cur
  unfold Img.setSlot recover
  -- `recover` gives slot 1 on ties.  `c.slot = 0`: the new header is in slot 1 and wins unless the old one is strictly
  -- newer; `c.slot = 1`: the new header is in slot 0 and has to be strictly newer, which is what `hv` says
  rcases hc.slot01 with hs | hs
  · rw [hs] at hcur ⊢
    simp only [if_pos] at hcur
    cases v with
    | bad => simp [hi.s0, hcur]
    | good h => have := hv h rfl; simp [hi.s0, hcur]; omega
  · rw [hs] at hcur ⊢
    simp at hcur
    cases v with
    | bad => simp [hi.s1, hcur]
    | good h => have := hv h rfl; simp [hi.s1, hcur]; omega

theorem postImg_recovers_post {c : CommitCtx} (hc : c.Ok) :
    recover c.postImg = some c.hpost ∧ intact c.postImg c.sdPost :=
  ⟨recover_setSlot hc (dataImg_preLike c) (.good c.hpost) fun h hv => by cases hv; exact hc.newer.1,
    intact_post hc (Img.setSlot_page ..)⟩

theorem tornHdr_atomic {c : CommitCtx} (hc : c.Ok) : Atomic c (c.dataImg.setSlot (1 - c.slot) .bad) :=
  Or.inl ⟨recover_setSlot hc (dataImg_preLike c) .bad nofun,
    intact_pre hc (by rw [Img.setSlot_page]; exact (dataImg_preLike c).pages)⟩

theorem run_pageWrites (i : Img) : ∀ (l : SnapDef) (pend : List IoOp),
    ({ durable := i, pending := pend } : Disk).run (pageWrites l) =
      { durable := i, pending := pend ++ pageWrites l }
  | [], pend => by rw [pageWrites, List.map_nil, List.append_nil]; rfl
  | e :: l, pend => by
    refine (run_pageWrites i l (pend ++ [IoOp.writePage e.1 e.2])).trans ?_
    rw [List.append_assoc]; rfl

theorem Disk.run_append (d : Disk) (a b : List IoOp) : d.run (a ++ b) = (d.run a).run b := by
  simp [Disk.run]

/-- truncated subtraction does the case split: for `k ≤ dirty.length` the tail part is `[]` -/
theorem run_take_pageWrites (i : Img) (dirty : SnapDef) (tl : List IoOp) (k : Nat) :
    ({ durable := i, pending := [] } : Disk).run ((pageWrites dirty ++ tl).take k) =
      ({ durable := i, pending := pageWrites (dirty.take k) } : Disk).run (tl.take (k - dirty.length)) := by
  rw [List.take_append, Disk.run_append, pageWrites, ← List.map_take, List.length_map, run_pageWrites,
    List.nil_append]

theorem run_safe_tail (c : CommitCtx) (n : Nat) :
    let d := ({ durable := c.img0, pending := pageWrites c.dirty } : Disk).run
      (List.take (n + 1) [.sync, .writeHdr (1 - c.slot) c.hpost, .sync])
    d = { durable := c.dataImg, pending := [] } ∨
    d = { durable := c.dataImg, pending := [.writeHdr (1 - c.slot) c.hpost] } ∨
    d = { durable := c.postImg, pending := [] } :=
  match n with
  | 0 => .inl rfl
  | 1 => .inr (.inl rfl)
  | n + 2 => .inr (.inr (by rw [List.take_of_length_le (Nat.le_add_left 3 n)]; rfl))

end Jamm
