/-
Layer C → Layer A: the client conditions of the release protocol for the commit model.  `keptRuns t` is all a
commit can keep.  Rebalance steps and touches never add a kept page; every stored page of a piece written by
`spill` is a kept page of the node; so every stored page of the committed tree is a kept page of the overlay
(`commitTree_runs_kept`).  `rsz` sizes a run, `esz` drives the split; C05 and the driver take
`entSize Gen.layout.bmSize` for both, the lemmas do not need that.  Then: what a commit frees are pages of the overlay
that the committed tree does not hold, each once (`mem_commitFreed`, `commitFreed_nodup`), the overlay's pages are the
kept and the freed ones (`commit_pages_partition`), every request is positive (`treeRequests_pos`).  Names: `X_kept` is
`keptRuns (X t) ⊆ keptRuns t`, `X_runs_kept` is `treeRuns (X t) ⊆ keptRuns t`, `X_runs_sub` is
`treeRuns (X t) ⊆ treeRuns t`.
-/
import Jamm.Model.CommitPages
import Jamm.Proofs.CommitRebalance
import Jamm.Proofs.CommitTouch
import Jamm.Proofs.CommitSpill

namespace Jamm

section
variable {E : Type} (L : Layout) (pagesize : Nat) (rsz : Bytes × E → Nat)
variable (p : Params) (hdr leafHdr branchHdr : Nat) (esz : Bytes × E → Nat)

mutual
/-- the stored pages of the maximal subtrees whose root the transaction never materialised -/
def keptRuns : Tree Bytes E → List Nat
  | .leaf pid es => if nodeMat pid then [] else treeRuns L pagesize rsz (.leaf pid es)
  | .branch pid kids => if nodeMat pid then keptRunsF kids else treeRuns L pagesize rsz (.branch pid kids)
def keptRunsF : Forest Bytes E → List Nat
  | .nil => []
  | .cons _ t rest => keptRuns t ++ keptRunsF rest
end

theorem nodeRun_pid_zero (t : Tree Bytes E) (h : nodePage t.pid = 0) : nodeRun L pagesize rsz t = [] := by
  simp [nodeRun, h]

variable {L pagesize rsz} {p hdr leafHdr branchHdr esz}

theorem keptRuns_of_unmat (t : Tree Bytes E) (h : nodeMat t.pid = false) :
    keptRuns L pagesize rsz t = treeRuns L pagesize rsz t := by
  cases t <;> simp only [Tree.pid] at h <;> simp [keptRuns, h]

theorem keptRuns_leaf_mat {pid : Nat} {es : List (Bytes × E)} (h : nodeMat pid = true) :
    keptRuns L pagesize rsz (.leaf pid es) = [] := by
  simp [keptRuns, h]

theorem keptRuns_branch_mat {pid : Nat} {kids : Forest Bytes E} (h : nodeMat pid = true) :
    keptRuns L pagesize rsz (.branch pid kids) = keptRunsF L pagesize rsz kids := by
  simp [keptRuns, h]

theorem keptRunsF_cons (k : Bytes) (t : Tree Bytes E) (rest : Forest Bytes E) :
    keptRunsF L pagesize rsz (.cons k t rest) = keptRuns L pagesize rsz t ++ keptRunsF L pagesize rsz rest :=
  rfl

theorem mem_keptRunsF {q : Nat} {f : Forest Bytes E} :
    q ∈ keptRunsF L pagesize rsz f ↔ ∃ kid ∈ f.toList, q ∈ keptRuns L pagesize rsz kid.2 :=
  Forest.mem_flatMap_of rfl fun _ _ _ => rfl

theorem mem_forestRuns {q : Nat} {f : Forest Bytes E} :
    q ∈ forestRuns L pagesize rsz f ↔ ∃ kid ∈ f.toList, q ∈ treeRuns L pagesize rsz kid.2 :=
  Forest.mem_flatMap_of rfl fun _ _ _ => rfl

theorem mem_treeRuns_branch {q pid : Nat} {kids : Forest Bytes E} :
    q ∈ treeRuns L pagesize rsz (.branch pid kids) ↔
      q ∈ nodeRun L pagesize rsz (.branch pid kids) ∨ ∃ kid ∈ kids.toList, q ∈ treeRuns L pagesize rsz kid.2 := by
  rw [treeRuns, List.mem_append, mem_forestRuns]

theorem treeRuns_leaf (pid : Nat) (es : List (Bytes × E)) :
    treeRuns L pagesize rsz (.leaf pid es) = nodeRun L pagesize rsz (.leaf pid es) := rfl

theorem keptRuns_sub (t : Tree Bytes E) : keptRuns L pagesize rsz t ⊆ treeRuns L pagesize rsz t := by
  induction t using Tree.ind_toList with
  | leaf pid es =>
    cases hm : nodeMat pid with
    | false => exact keptRuns_of_unmat (.leaf pid es) hm ▸ List.Subset.refl _
    | true => exact keptRuns_leaf_mat hm ▸ List.nil_subset _
  | branch pid kids ih =>
    cases hm : nodeMat pid with
    | false => exact keptRuns_of_unmat (.branch pid kids) hm ▸ List.Subset.refl _
    | true =>
      intro q hq
      rw [keptRuns_branch_mat hm] at hq
      obtain ⟨kid, hkid, hq⟩ := mem_keptRunsF.1 hq
      exact mem_treeRuns_branch.2 (.inr ⟨kid, hkid, ih kid hkid hq⟩)

theorem keptRunsF_sub (f : Forest Bytes E) : keptRunsF L pagesize rsz f ⊆ forestRuns L pagesize rsz f :=
  fun _ hq =>
    let ⟨kid, hkid, hq⟩ := mem_keptRunsF.1 hq
    mem_forestRuns.2 ⟨kid, hkid, keptRuns_sub kid.2 hq⟩

theorem keptRunsF_eq (f : Forest Bytes E) :
    keptRunsF L pagesize rsz f = f.toList.flatMap fun e => keptRuns L pagesize rsz e.2 :=
  Forest.eq_flatMap rfl (fun _ _ _ => rfl) f

theorem keptRunsF_append (a b : Forest Bytes E) :
    keptRunsF L pagesize rsz (Forest.append a b) = keptRunsF L pagesize rsz a ++ keptRunsF L pagesize rsz b := by
  rw [keptRunsF_eq, keptRunsF_eq, keptRunsF_eq, Forest.toList_append, List.flatMap_append]

theorem keptRunsF_sub_branch (pid : Nat) (kids : Forest Bytes E) :
    keptRunsF L pagesize rsz kids ⊆ keptRuns L pagesize rsz (.branch pid kids) := by
  cases hm : nodeMat pid with
  | false =>
    rw [keptRuns_of_unmat (.branch pid kids) hm]
    exact fun q hq => mem_treeRuns_branch.2 (.inr (mem_forestRuns.1 (keptRunsF_sub kids hq)))
  | true => exact keptRuns_branch_mat hm ▸ List.Subset.refl _

theorem mergeInto_kept (keep : Nat) (a b : Tree Bytes E) :
    keptRuns L pagesize rsz (Tree.mergeInto keep a b) ⊆ keptRuns L pagesize rsz a ++ keptRuns L pagesize rsz b := by
  cases a with
  | leaf p1 es1 =>
    cases b with
    | leaf p2 es2 =>
      rw [mergeInto_leaf_leaf, keptRuns_leaf_mat (nodeMat_mkPid_true _)]
      exact List.nil_subset _
    | branch p2 k2 => exact mergeInto_leaf_branch .. ▸ List.subset_append_left _ _
  | branch p1 k1 =>
    cases b with
    | leaf p2 es2 => exact mergeInto_branch_leaf .. ▸ List.subset_append_left _ _
    | branch p2 k2 =>
      rw [mergeInto_branch_branch, keptRuns_branch_mat (nodeMat_mkPid_true _), keptRunsF_append]
      exact append_subset_append (keptRunsF_sub_branch p1 k1) (keptRunsF_sub_branch p2 k2)

theorem mergeOutcome_kept {f g : Forest Bytes E} (h : MergeOutcome f g) :
    keptRunsF L pagesize rsz g ⊆ keptRunsF L pagesize rsz f := by
  cases h with
  | same => exact List.Subset.refl _
  | dropFirst k x rest _ => exact List.subset_append_right _ _
  | dropLater pre kl l k x post _ =>
    simp only [keptRunsF_append, keptRunsF_cons]
    exact append_subset_append (List.Subset.refl _)
      (append_subset_append (List.Subset.refl _) (List.subset_append_right _ _))
  | merge pre kl l k x post p =>
    simp only [keptRunsF_append, keptRunsF_cons]
    rw [← List.append_assoc (keptRuns L pagesize rsz l)]
    exact append_subset_append (List.Subset.refl _)
      (append_subset_append (mergeInto_kept p l x) (List.Subset.refl _))

theorem keptRunsF_rel₂ {f f' : Forest Bytes E}
    (hr : Forest.Rel₂ (fun a b => keptRuns L pagesize rsz b ⊆ keptRuns L pagesize rsz a) f f') :
    keptRunsF L pagesize rsz f' ⊆ keptRunsF L pagesize rsz f := by
  induction hr with
  | nil => exact List.Subset.refl _
  | cons k ht _ ih => exact append_subset_append ht ih

/-- towards a materialised branch: its own run is not kept.  The index `S` turns a monotonicity into a
congruence: `∀ S, kept a ⊆ S → kept b ⊆ S`, taken at `S` = the kept pages of `a`, says `kept b ⊆ kept a`. -/
theorem kept_childCongr :
    ChildCongr (fun (S : List Nat) (t : Tree Bytes E) => keptRuns L pagesize rsz t ⊆ S)
      (fun _ p' => nodeMat p' = true) := by
  intro S p p' kids kids' hp' h hr
  rw [keptRuns_branch_mat hp']
  exact ((keptRunsF_rel₂ (hr.imp fun a _ hab => hab _ (List.Subset.refl _))).trans
    (keptRunsF_sub_branch p kids)).trans h

theorem atBranch_kept (page : Nat) (f : Forest Bytes E → Forest Bytes E)
    (hf : ∀ g, keptRunsF L pagesize rsz (f g) ⊆ keptRunsF L pagesize rsz g) (t : Tree Bytes E) :
    keptRuns L pagesize rsz (Tree.atBranch page f t) ⊆ keptRuns L pagesize rsz t :=
  atBranch_lift kept_childCongr.for_atBranch page f
    (fun S p kids hm h => by
      rw [keptRuns_branch_mat hm] at h ⊢
      exact (hf kids).trans h)
    t _ (List.Subset.refl _)

theorem nodeRun_emptyRoot (pid : Nat) :
    nodeRun L pagesize rsz (.leaf pid []) = nodeRun L pagesize rsz (.branch pid .nil) := by
  simp [nodeRun, nodeBytes, Tree.pid]

theorem rbStep_kept (t : Tree Bytes E) (s : RbStep) :
    keptRuns L pagesize rsz (t.rbStep s) ⊆ keptRuns L pagesize rsz t := by
  cases s with
  | merge parent i =>
    exact atBranch_kept parent _ (fun g => mergeOutcome_kept (mergeChild_outcome g i)) t
  | collapse =>
    rcases rbStep_collapse_cases t with e | ⟨pid, k, c, rfl, e⟩
    · exact e.symm ▸ List.Subset.refl _
    · rw [e]
      exact (List.subset_append_left _ _).trans (keptRunsF_sub_branch pid (.cons k c .nil))
  | emptyRoot =>
    rcases rbStep_emptyRoot_cases t with e | ⟨pid, rfl, e⟩
    · exact e.symm ▸ List.Subset.refl _
    · rw [e]
      cases hm : nodeMat pid with
      | true => exact keptRuns_leaf_mat hm ▸ List.nil_subset _
      | false =>
        -- an empty root leaf and an empty root branch occupy the same run
        rw [keptRuns_of_unmat (.leaf pid []) hm, treeRuns_leaf, nodeRun_emptyRoot, keptRuns_of_unmat (.branch pid .nil) hm]
        exact fun q hq => mem_treeRuns_branch.2 (.inl hq)

theorem touch_kept (t : Tree Bytes E) (key : Bytes) :
    keptRuns L pagesize rsz (t.touch key) ⊆ keptRuns L pagesize rsz t :=
  path_lift (touch_branch_mapAt key) kept_childCongr.for_touch
    (fun _ p es _ => by
      rw [touch_leaf, keptRuns_leaf_mat (nodeMat_mkPid_true _)]
      exact List.nil_subset _)
    t _ (List.Subset.refl _)

theorem rebalance_touchAll_kept (steps : List RbStep) (touched : List Bytes) (t : Tree Bytes E) :
    keptRuns L pagesize rsz ((t.rebalance steps).touchAll touched) ⊆ keptRuns L pagesize rsz t :=
  Tree.touchAll_keeps (P := fun b => keptRuns L pagesize rsz b ⊆ keptRuns L pagesize rsz t)
    (fun b k h => (touch_kept b k).trans h) touched _
    (Tree.rebalance_keeps (fun b s h => (rbStep_kept b s).trans h) steps t (List.Subset.refl _))

/-- page 0 is "no page": both the pid `0` of a written piece and the pid `1` of a new root have it, by `rfl` -/
theorem treeRuns_branch_nodePage_zero {c : List (Bytes × Tree Bytes E)} {pid q : Nat} (hp : nodePage pid = 0)
    (hq : q ∈ treeRuns L pagesize rsz (.branch pid (Forest.ofList c))) :
    ∃ e ∈ c, q ∈ treeRuns L pagesize rsz e.2 := by
  rcases mem_treeRuns_branch.1 hq with h | h
  · rw [nodeRun_pid_zero L pagesize rsz (.branch pid _) hp] at h
    cases h
  · rwa [Forest.toList_ofList] at h

theorem spillT_runs_kept (key : Bytes) (t : Tree Bytes E) :
    ∀ e ∈ spillT p pagesize hdr leafHdr branchHdr esz key t,
      treeRuns L pagesize rsz e.2 ⊆ keptRuns L pagesize rsz t :=
  spillT_all (Q := fun _ t e => treeRuns L pagesize rsz e.2 ⊆ keptRuns L pagesize rsz t)
    (fun _ t hm => keptRuns_of_unmat t hm ▸ List.Subset.refl _)
    (fun _ _ _ c _ => by
      rw [treeRuns_leaf, nodeRun_pid_zero L pagesize rsz (.leaf 0 c) (rfl : nodePage 0 = 0)]
      exact List.nil_subset _)
    (fun _ pid kids c _ hc q hq => by
      obtain ⟨e', he', hq'⟩ := treeRuns_branch_nodePage_zero rfl hq
      obtain ⟨kid, hkid, hQ⟩ := hc e' he'
      exact keptRunsF_sub_branch pid kids (mem_keptRunsF.2 ⟨kid, hkid, hQ hq'⟩))
    key t

theorem spillRoot_runs_sub (fuel : Nat) (t : Tree Bytes E) :
    treeRuns L pagesize rsz (spillRoot p pagesize hdr leafHdr branchHdr esz fuel t) ⊆ treeRuns L pagesize rsz t :=
  spillRoot_induct (P := fun b => treeRuns L pagesize rsz b ⊆ treeRuns L pagesize rsz t)
    (fun _ k r h _ hq => h (mem_treeRuns_branch.2 (.inr ⟨(k, r), List.mem_cons_self, hq⟩)))
    (fun b h _ hq =>
      let ⟨e, he, hq'⟩ := treeRuns_branch_nodePage_zero rfl hq
      h (keptRuns_sub b (spillT_runs_kept [] b e he hq')))
    fuel t (List.Subset.refl _)

/-- `fuel + 1`: with fuel 0 the tree is returned as it is, materialised root included -/
theorem spillRoot_succ_runs_kept (fuel : Nat) (t : Tree Bytes E) :
    treeRuns L pagesize rsz (spillRoot p pagesize hdr leafHdr branchHdr esz (fuel + 1) t) ⊆
      keptRuns L pagesize rsz t := by
  intro q hq
  rcases spillRoot_succ_cases p pagesize hdr leafHdr branchHdr esz fuel t with ⟨k, r, heq, hr⟩ | ⟨_, hr⟩
  · rw [hr] at hq
    exact spillT_runs_kept [] t (k, r) (mem_of_eq_singleton heq) hq
  · rw [hr] at hq
    obtain ⟨e, he, hq'⟩ := treeRuns_branch_nodePage_zero rfl (spillRoot_runs_sub fuel _ hq)
    exact spillT_runs_kept [] t e he hq'

/-- commit never invents a page id and never keeps a node it rewrote — for every list of rebalance steps and
every list of touched header keys -/
theorem commitTree_runs_kept (steps : List RbStep) (touched : List Bytes) (pre : Tree Bytes E) :
    treeRuns L pagesize rsz (commitTree p pagesize hdr leafHdr branchHdr esz steps touched pre) ⊆
      keptRuns L pagesize rsz pre := by
  -- the fuel `commitTree` gives is not 0
  obtain ⟨n, hn⟩ : ∃ n, (spillT p pagesize hdr leafHdr branchHdr esz []
      ((pre.rebalance steps).touchAll touched)).length = n + 1 :=
    Nat.exists_eq_succ_of_ne_zero (mt List.length_eq_zero_iff.1 (spillT_ne_nil [] _))
  rw [commitTree_eq, hn]
  exact (spillRoot_succ_runs_kept n _).trans (rebalance_touchAll_kept steps touched pre)

/-- the form C05 states (`commit_keeps_only_overlay_pages`); `commitTree_runs_kept` says more: the page is a kept page,
so not the page of a node the transaction rewrote -/
theorem commitTree_runs_sub (steps : List RbStep) (touched : List Bytes) (pre : Tree Bytes E) :
    ∀ q ∈ treeRuns L pagesize rsz (commitTree p pagesize hdr leafHdr branchHdr esz steps touched pre),
      q ∈ treeRuns L pagesize rsz pre :=
  (commitTree_runs_kept steps touched pre).trans (keptRuns_sub pre)

theorem mem_commitFreed {pre post : Tree Bytes E} {q : Nat} :
    q ∈ commitFreed L pagesize rsz pre post ↔
      q ∈ treeRuns L pagesize rsz pre ∧ q ∉ treeRuns L pagesize rsz post := by
  simp [commitFreed]

theorem commitFreed_nodup (pre post : Tree Bytes E) (h : (treeRuns L pagesize rsz pre).Nodup) :
    (commitFreed L pagesize rsz pre post).Nodup :=
  h.sublist List.filter_sublist

theorem commit_pages_partition (steps : List RbStep) (touched : List Bytes) (pre : Tree Bytes E) (q : Nat) :
    let post := commitTree p pagesize hdr leafHdr branchHdr esz steps touched pre
    q ∈ treeRuns L pagesize rsz pre ↔
      (q ∈ treeRuns L pagesize rsz post ∨ q ∈ commitFreed L pagesize rsz pre post) := by
  intro post
  constructor
  · intro h
    by_cases hp : q ∈ treeRuns L pagesize rsz post
    · exact Or.inl hp
    · exact Or.inr (mem_commitFreed.2 ⟨h, hp⟩)
  · rintro (h | h)
    · exact commitTree_runs_sub steps touched pre q h
    · exact (mem_commitFreed.1 h).1

theorem runLen_pos (hps : 0 < pagesize) (bytes : Nat) (hb : 0 < bytes) : 0 < runLen pagesize bytes := by
  unfold runLen
  split
  · rename_i h
    exact Nat.div_pos (Nat.le_of_dvd hb (Nat.dvd_of_mod_eq_zero h)) hps
  · exact Nat.succ_pos _

theorem mem_forestRequests {n : Nat} {f : Forest Bytes E} :
    n ∈ forestRequests L pagesize rsz f ↔ ∃ kid ∈ f.toList, n ∈ treeRequests L pagesize rsz kid.2 :=
  Forest.mem_flatMap_of rfl fun _ _ _ => rfl

theorem nodeBytes_pos (hL : 0 < L.pageSize) (t : Tree Bytes E) : 0 < nodeBytes L rsz t := by
  cases t <;> simp only [nodeBytes] <;> omega

theorem treeRequests_pos (hps : 0 < pagesize) (hL : 0 < L.pageSize) (t : Tree Bytes E) :
    ∀ n ∈ treeRequests L pagesize rsz t, 0 < n := by
  have hnode : ∀ (t : Tree Bytes E) (c : Prop) [Decidable c], ∀ n ∈ (if c then [runLen pagesize (nodeBytes L rsz t)] else []),
      0 < n := by
    intro t c _ n hn
    split at hn
    · rw [List.mem_singleton.1 hn]
      exact runLen_pos hps _ (nodeBytes_pos hL _)
    · cases hn
  induction t using Tree.ind_toList with
  | leaf pid es => exact hnode _ _
  | branch pid kids ih =>
    intro n hn
    simp only [treeRequests, List.mem_append] at hn
    rcases hn with hn | hn
    · exact hnode _ _ n hn
    · obtain ⟨kid, hkid, hn⟩ := mem_forestRequests.1 hn
      exact ih kid hkid n hn

/-! Nothing uses the forest twins below: a fact about an entry list is the fact about the tree at every entry, by
`mem_keptRunsF`, `mem_spillF`, `mem_forestRequests`. -/

variable (L pagesize rsz) (p hdr leafHdr branchHdr esz)

theorem atBranchF_kept (page : Nat) (f : Forest Bytes E → Forest Bytes E)
    (hf : ∀ g, ∀ q ∈ keptRunsF L pagesize rsz (f g), q ∈ keptRunsF L pagesize rsz g) (g : Forest Bytes E) :
    ∀ q ∈ keptRunsF L pagesize rsz (Forest.atBranch page f g), q ∈ keptRunsF L pagesize rsz g :=
  keptRunsF_rel₂
    (Forest.Rel₂.atBranch page f g fun e _ => atBranch_kept page f hf e.2)

theorem touchAt_kept (key : Bytes) (f : Forest Bytes E) (i : Nat) :
    ∀ q ∈ keptRunsF L pagesize rsz (Forest.touchAt key f i), q ∈ keptRunsF L pagesize rsz f :=
  touchAt_eq key f i ▸ keptRunsF_rel₂
    (Forest.Rel₂.mapAt _ (fun _ _ h => h) f i fun e _ => touch_kept e.2 key)

theorem spillF_kept (f : Forest Bytes E) :
    ∀ e ∈ spillF p pagesize hdr leafHdr branchHdr esz f,
      ∀ q ∈ treeRuns L pagesize rsz e.2, q ∈ keptRunsF L pagesize rsz f := fun e he _ hq =>
  let ⟨kid, hkid, he⟩ := mem_spillF.1 he
  mem_keptRunsF.2 ⟨kid, hkid, spillT_runs_kept kid.1 kid.2 e he hq⟩

theorem forestRequests_pos_aux (hps : 0 < pagesize) (hL : 0 < L.pageSize) (f : Forest Bytes E) :
    ∀ n ∈ forestRequests L pagesize rsz f, 0 < n := fun n hn =>
  let ⟨kid, _, hn⟩ := mem_forestRequests.1 hn
  treeRequests_pos hps hL kid.2 n hn

end
end Jamm
