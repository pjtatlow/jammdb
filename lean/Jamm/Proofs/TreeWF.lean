/-
What well-formedness (`WF`, Model/Tree.lean) buys: the contents are strictly ascending, `indexOf` sends a key to the
child whose interval holds it (`WF.route`), hence lookup, `put`, `del` are the list operations on the contents.
The premises `inLo lo k'` and `inHi hi k'` of `WFF.cons` are what makes `flatten_sorted` true: without them an empty last
child under an inverted interval is well-formed and the contents need not ascend.
Facts of every node go by induction over the derivation (`wf_induct`, as `flatten_sorted_aux`); facts along the search
path of one key by `Tree.ind_toList` with `WF.route` (as `lookup_spec`, `edit_spec`).
-/
import Jamm.Proofs.TreeLemmas
import Jamm.Proofs.ForestLemmas
open Std

namespace Jamm

section
variable {K E : Type}
variable [Ord K]

theorem WF.leaf_iff {lo hi : Option K} {p : Nat} {es : List (K × E)} :
    WF lo hi (.leaf p es) ↔ Spec.Sorted es ∧ ∀ e ∈ es, inLo lo e.1 ∧ inHi hi e.1 :=
  ⟨fun h => by cases h with | leaf _ _ _ _ hs hb => exact ⟨hs, hb⟩, fun h => .leaf _ _ _ _ h.1 h.2⟩

theorem WF.branch_iff {lo hi : Option K} {p : Nat} {k : K} {t : Tree K E} {rest : Forest K E} :
    WF lo hi (.branch p (.cons k t rest)) ↔ WFF lo hi k t rest :=
  ⟨fun h => by cases h with | branch _ _ _ _ _ _ hw => exact hw, .branch _ _ _ _ _ _⟩

theorem WF.not_branch_nil {lo hi : Option K} {p : Nat} : ¬ WF lo hi (.branch p (.nil : Forest K E)) :=
  fun h => nomatch h

theorem WFF.last_iff {lo hi : Option K} {k : K} {t : Tree K E} : WFF lo hi k t .nil ↔ WF lo hi t :=
  ⟨fun h => by cases h with | last _ _ _ _ hw => exact hw, .last _ _ _ _⟩

theorem WFF.cons_iff {lo hi : Option K} {k k' : K} {t t' : Tree K E} {rest : Forest K E} :
    WFF lo hi k t (.cons k' t' rest) ↔
      klt k k' = true ∧ inLo lo k' ∧ inHi hi k' ∧ WF lo (some k') t ∧ WFF (some k') hi k' t' rest :=
  ⟨fun h => by cases h with | cons _ _ _ _ _ _ _ hk hlo hhi hwt hwr => exact ⟨hk, hlo, hhi, hwt, hwr⟩,
   fun ⟨hk, hlo, hhi, hwt, hwr⟩ => .cons _ _ _ _ _ _ _ hk hlo hhi hwt hwr⟩

/-- `WF.branch` yields the forest only as `.cons k t rest` and `WFF` is indexed by that triple, not by a forest: a fact
about every node of a well-formed tree is proved over the derivation, with `P` for trees and `Q` for `WFF`. -/
theorem wf_induct {P : Option K → Option K → Tree K E → Prop}
    {Q : Option K → Option K → K → Tree K E → Forest K E → Prop}
    (leaf : ∀ lo hi p es, Spec.Sorted es → (∀ e ∈ es, inLo lo e.1 ∧ inHi hi e.1) →
      P lo hi (.leaf p es))
    (branch : ∀ lo hi p k t rest, WFF lo hi k t rest → Q lo hi k t rest →
      P lo hi (.branch p (.cons k t rest)))
    (last : ∀ lo hi k t, WF lo hi t → P lo hi t → Q lo hi k t .nil)
    (cons : ∀ lo hi k t k' t' rest, klt k k' = true → inLo lo k' → inHi hi k' →
      WF lo (some k') t → WFF (some k') hi k' t' rest →
      P lo (some k') t → Q (some k') hi k' t' rest → Q lo hi k t (.cons k' t' rest)) :
    (∀ lo hi t, WF lo hi t → P lo hi t) ∧ (∀ lo hi k t rest, WFF lo hi k t rest → Q lo hi k t rest) :=
  ⟨fun _ _ _ h => WF.rec (motive_1 := fun lo hi t _ => P lo hi t)
      (motive_2 := fun lo hi k t rest _ => Q lo hi k t rest) leaf branch last cons h,
   fun _ _ _ _ _ h => WFF.rec (motive_1 := fun lo hi t _ => P lo hi t)
      (motive_2 := fun lo hi k t rest _ => Q lo hi k t rest) leaf branch last cons h⟩

end

variable {K E : Type} [Ord K] [TransOrd K] [LawfulEqOrd K]

section
omit [LawfulEqOrd K]

theorem inHi_of_klt {hi : Option K} {a b : K} (h : klt a b = true) (hb : inHi hi b) : inHi hi a := by
  cases hi with
  | none => trivial
  | some x => exact klt_trans h hb

theorem inLo_of_kle {lo : Option K} {a b : K} (ha : inLo lo a) (h : kle a b = true) : inLo lo b := by
  cases lo with
  | none => trivial
  | some x => exact kle_trans ha h

theorem flatten_sorted_aux :
    (∀ (lo hi : Option K) (t : Tree K E), WF lo hi t →
      Spec.Sorted t.flatten ∧ ∀ e ∈ t.flatten, inLo lo e.1 ∧ inHi hi e.1) ∧
    (∀ (lo hi : Option K) (k : K) (t : Tree K E) (rest : Forest K E), WFF lo hi k t rest →
      Spec.Sorted (Tree.flattenF (.cons k t rest)) ∧
        ∀ e ∈ Tree.flattenF (.cons k t rest), inLo lo e.1 ∧ inHi hi e.1) := by
  apply wf_induct
  · intro lo hi p es hs hb
    rw [flatten_leaf]
    exact ⟨hs, hb⟩
  · intro lo hi p k t rest _ ih
    rw [flatten_branch]
    exact ih
  · intro lo hi k t _ ih
    rw [flattenF_cons, flattenF_nil, List.append_nil]
    exact ih
  · intro lo hi k t k' t' rest hk hlo' hhi' _ _ iht ihr
    -- order and bounds are proved together: that the two halves of `flatten t ++ flattenF rest` are in order comes
    -- from the bounds of the halves (`< k'`, `≥ k'`)
    rw [flattenF_cons k t]
    refine ⟨Spec.sorted_append_iff.mpr ⟨iht.1, ihr.1, ?_⟩, ?_⟩
    · intro a ha b hb
      have h1 : klt a.1 k' = true := (iht.2 a ha).2
      have h2 : kle k' b.1 = true := (ihr.2 b hb).1
      exact klt_of_klt_of_kle h1 h2
    · intro e he
      rcases List.mem_append.mp he with he | he
      · have h1 : klt e.1 k' = true := (iht.2 e he).2
        exact ⟨(iht.2 e he).1, inHi_of_klt h1 hhi'⟩
      · have h2 : kle k' e.1 = true := (ihr.2 e he).1
        exact ⟨inLo_of_kle hlo' h2, (ihr.2 e he).2⟩

theorem flatten_sorted (lo hi : Option K) (t : Tree K E) (h : WF lo hi t) : Spec.Sorted t.flatten :=
  (flatten_sorted_aux.1 lo hi t h).1

theorem flatten_bounds {lo hi : Option K} {t : Tree K E} (h : WF lo hi t) :
    ∀ e ∈ t.flatten, inLo lo e.1 ∧ inHi hi e.1 :=
  (flatten_sorted_aux.1 lo hi t h).2

theorem flattenF_bounds {lo hi : Option K} {k : K} {t : Tree K E} {rest : Forest K E}
    (h : WFF lo hi k t rest) : ∀ e ∈ Tree.flattenF (.cons k t rest), inLo lo e.1 ∧ inHi hi e.1 :=
  (flatten_sorted_aux.2 lo hi k t rest h).2

end

/-- `lo' hi'`: the interval of the child `t` that `key` is sent to; `left` / `right`: all contents of the siblings
before / after it are below / above `key` (so they do not matter to `lookup` / `insert` / `erase` at `key`, SpecLemmas
`*_append_of_lt/gt`); `replace`: any well-formed replacement of `t` leaves the branch well-formed. -/
structure WF.Route (lo hi : Option K) (p : Nat) (kids : Forest K E) (key : K) (i : Nat)
    (k : K) (t : Tree K E) (lo' hi' : Option K) : Prop where
  get : kids.get? i = some (k, t)
  wf : WF lo' hi' t
  lower : inLo lo key → inLo lo' key
  upper : inHi hi key → inHi hi' key
  left : ∀ e ∈ Tree.flattenF (kids.take i), klt e.1 key = true
  right : ∀ e ∈ Tree.flattenF (kids.drop (i + 1)), klt key e.1 = true
  replace : ∀ g : Tree K E → Tree K E, WF lo' hi' (g t) → WF lo hi (.branch p (kids.mapAt g i))

theorem WF.route {lo hi : Option K} {p : Nat} {kids : Forest K E} (h : WF lo hi (.branch p kids)) (key : K) :
    ∃ k t lo' hi', WF.Route lo hi p kids key (indexOf kids.keys key).1 k t lo' hi' := by
  -- by induction on the children, comparing `key` with the second key `k'` as `indexOf` does
  -- (`indexOf_cons_cons_lt` / `_ge`): below `k'` the first child, with interval `[lo, k')` (so a key below the first
  -- key `k` still goes there); otherwise the index is one more than in the rest, whose lower bound is `k'`
  induction kids using Forest.ind generalizing lo with
  | nil => exact absurd h WF.not_branch_nil
  | cons k t rest ih =>
    have hw := WF.branch_iff.mp h
    cases rest with
    | nil =>
      have hi0 : (indexOf (Forest.cons k t .nil).keys key).1 = 0 := indexOf_single k key
      rw [hi0]
      exact ⟨k, t, lo, hi, {
        get := rfl
        wf := WFF.last_iff.mp hw
        lower := id
        upper := id
        left := by simp
        right := by simp
        replace := fun g hg => by
          rw [Forest.mapAt_cons_zero]; exact WF.branch_iff.mpr (WFF.last_iff.mpr hg) }⟩
    | cons k' t' rest' =>
      obtain ⟨hk, hlo', hhi', hwt, hwr⟩ := WFF.cons_iff.mp hw
      by_cases hkey : klt key k' = true
      · have hi0 : (indexOf (Forest.cons k t (.cons k' t' rest')).keys key).1 = 0 :=
          indexOf_cons_cons_lt k k' _ key hkey
        rw [hi0]
        exact ⟨k, t, lo, some k', {
          get := rfl
          wf := hwt
          lower := id
          upper := fun _ => hkey
          left := by simp
          right := fun e he => by
            rw [Forest.drop_cons_succ, Forest.drop_zero] at he
            exact klt_of_klt_of_kle hkey (flattenF_bounds hwr e he).1
          replace := fun g hg => by
            rw [Forest.mapAt_cons_zero]; exact WF.branch_iff.mpr (WFF.cons_iff.mpr ⟨hk, hlo', hhi', hg, hwr⟩) }⟩
      · have hkey' : klt key k' = false := by simpa using hkey
        obtain ⟨kᵢ, tᵢ, lo₁, hi₁, r⟩ := ih (WF.branch_iff.mpr hwr)
        have hi1 : (indexOf (Forest.cons k t (.cons k' t' rest')).keys key).1 =
            (indexOf (Forest.cons k' t' rest').keys key).1 + 1 := indexOf_cons_cons_ge k k' _ key hk hkey'
        rw [hi1]
        exact ⟨kᵢ, tᵢ, lo₁, hi₁, {
          get := r.get
          wf := r.wf
          lower := fun _ => r.lower (kle_of_not_klt hkey')
          upper := r.upper
          left := fun e he => by
            rw [Forest.take_cons_succ, flattenF_cons] at he
            rcases List.mem_append.mp he with he | he
            · exact klt_of_klt_of_kle (flatten_bounds hwt e he).2 (kle_of_not_klt hkey')
            · exact r.left e he
          right := fun e he => by rw [Forest.drop_cons_succ] at he; exact r.right e he
          replace := fun g hg => by
            -- the rebuilt rest is a `cons` again, so its well-formedness is a `WFF` to put behind `(k, t)`
            obtain ⟨t₁, rest₁, he⟩ := Forest.mapAt_cons g k' t' rest' (indexOf (Forest.cons k' t' rest').keys key).1
            have hw₁ := r.replace g hg
            rw [he] at hw₁
            rw [Forest.mapAt_cons_succ, he]
            exact WF.branch_iff.mpr (WFF.cons_iff.mpr ⟨hk, hlo', hhi', hwt, WF.branch_iff.mp hw₁⟩) }⟩

variable [DecidableEq K]

theorem lookup_spec (lo hi : Option K) (t : Tree K E) (h : WF lo hi t) (key : K) :
    t.lookup key = (Spec.lookup key t.flatten).map (fun e => (key, e)) := by
  induction t using Tree.ind_toList generalizing lo hi with
  | leaf p es => exact lookup_leaf p es (WF.leaf_iff.mp h).1 key
  | branch p kids ih =>
    obtain ⟨k, t, lo', hi', r⟩ := h.route key
    rw [Tree.lookup, lookupAt_eq, r.get, flatten_branch, Forest.flattenF_of_get? _ _ _ _ r.get,
      Spec.lookup_append_of_lt r.left, Spec.lookup_append_of_gt r.right]
    exact ih _ (Forest.mem_toList_of_get? _ _ _ _ r.get) _ _ r.wf

omit [DecidableEq K] in
/-- `g` does `φ` to the entries of the leaf that the search for `key` ends in -/
theorem edit_spec {key : K} {φ : List (K × E) → List (K × E)} {g : Tree K E → Tree K E}
    (hleaf : ∀ p es, g (.leaf p es) = .leaf p (φ es))
    (hbranch : ∀ p kids, g (.branch p kids) = .branch p (kids.mapAt g (indexOf kids.keys key).1))
    (hsorted : ∀ l, Spec.Sorted l → Spec.Sorted (φ l)) (hmem : ∀ l x, x ∈ φ l → x ∈ l ∨ x.1 = key)
    (hlt : ∀ l₁ l₂, (∀ e ∈ l₁, klt e.1 key = true) → φ (l₁ ++ l₂) = l₁ ++ φ l₂)
    (hgt : ∀ l₁ l₂, (∀ e ∈ l₂, klt key e.1 = true) → φ (l₁ ++ l₂) = φ l₁ ++ l₂)
    (lo hi : Option K) (t : Tree K E) (h : WF lo hi t) (hlo : inLo lo key) (hhi : inHi hi key) :
    (g t).flatten = φ t.flatten ∧ WF lo hi (g t) := by
  induction t using Tree.ind_toList generalizing lo hi with
  | leaf p es =>
    obtain ⟨hs, hb⟩ := WF.leaf_iff.mp h
    rw [hleaf]
    refine ⟨rfl, WF.leaf_iff.mpr ⟨hsorted es hs, fun x hx => ?_⟩⟩
    rcases hmem es x hx with hx | hx
    · exact hb x hx
    · exact hx ▸ ⟨hlo, hhi⟩
  | branch p kids ih =>
    obtain ⟨k, t, lo', hi', r⟩ := h.route key
    obtain ⟨hfl, hwf⟩ := ih _ (Forest.mem_toList_of_get? _ _ _ _ r.get) _ _ r.wf (r.lower hlo) (r.upper hhi)
    rw [hbranch, flatten_branch, flatten_branch, Forest.flattenF_mapAt g _ _ _ _ r.get, hfl,
      Forest.flattenF_of_get? _ _ _ _ r.get, hlt _ _ r.left, hgt _ _ r.right]
    exact ⟨rfl, r.replace g hwf⟩

/-- `Bucket::put` (`put_leaf`) before commit -/
theorem put_spec (lo hi : Option K) (t : Tree K E) (h : WF lo hi t) (key : K) (e : E)
    (hlo : inLo lo key) (hhi : inHi hi key) :
    (t.put key e).flatten = Spec.insert key e t.flatten ∧ WF lo hi (t.put key e) :=
  edit_spec (fun _ _ => rfl) (put_branch_mapAt key e) (Spec.sorted_insert key e)
    (fun _ _ hx => (Spec.eq_or_mem_of_mem_insert hx).elim (fun h => .inr (h ▸ rfl)) .inl)
    (fun _ _ => Spec.insert_append_of_lt) (fun _ _ => Spec.insert_append_of_gt) lo hi t h hlo hhi

/-- `Bucket::delete` before commit -/
theorem del_spec (lo hi : Option K) (t : Tree K E) (h : WF lo hi t) (key : K)
    (hlo : inLo lo key) (hhi : inHi hi key) :
    (t.del key).flatten = Spec.erase key t.flatten ∧ WF lo hi (t.del key) :=
  edit_spec (fun _ _ => rfl) (del_branch_mapAt key) (Spec.sorted_erase key)
    (fun _ _ hx => .inl (Spec.mem_of_mem_erase hx))
    (fun _ _ => Spec.erase_append_of_lt) (fun _ _ => Spec.erase_append_of_gt) lo hi t h hlo hhi

end Jamm
