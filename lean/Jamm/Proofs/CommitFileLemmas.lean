/-
What it means, in file bytes, that a database state is stored.  `Holds s slot st`: state `st` is stored in file `s` under
header slot `slot`.  `KeepsState s s' slot st`: `s'` has the size of `s` and the bytes of `s` on that header page and on
every run `st` owns; everything else in the file may differ in any way (any subset of the data writes of a commit in
flight, torn at any granularity, garbage).  A state that holds and whose rival loses is what `openFile` shows
(`opens_of_holds_wins`); `Holds` passes along `KeepsState` (`Holds.transfer`).

`DataStored` = `Holds` without the header fields = the two premises `StoredV …` and `∃ p, decodePage … freelistPage …`
that the statements of `CommitFileAtomic` spell out; `OtherLoses`: the rival slot loses `DBInner::meta`'s choice.

Lemmas in which a header page changes take `∀ r ∈ st.runs ov, 2 ≤ r.1` (the runs lie outside both header pages; it is a
conjunct of `Committed`, not of `Holds`); a header page is the run `(slot, 0)`.  `ov p` is the overflow count of the
node stored at page `p`.
-/
import Jamm.Model.CommitFile
import Jamm.Proofs.EncodeViewLemmas
import Jamm.Proofs.EncodeMetaLemmas
import Jamm.Proofs.MetaBytes
namespace Jamm

theorem record_in_page {L : Layout} {pagesize : Nat} (hrec : L.pgPtr + L.metaSize ≤ pagesize) (base : Nat) :
    base + L.pgPtr + L.metaSize ≤ base + pagesize :=
  Nat.add_assoc .. ▸ Nat.add_le_add_left hrec base

section
variable (L : Layout) (order : List MetaField) (pagesize : Nat)

structure Holds (ov : Nat → Nat) (s : Src) (slot : Nat) (st : Opened) : Prop where
  valid : slotValid L order s pagesize slot = some st.hdr
  ps : st.hdr.pagesize = pagesize
  stored : StoredV L pagesize ov s st.view
  ok : ViewOK st.view
  root : st.hdr.rootPage = st.view.tree.pid
  next : st.hdr.nextInt = st.view.nextInt
  fl : ∃ p, decodePage L s pagesize st.hdr.freelistPage = .ok p ∧ p.body = .freelist st.free ∧
    p.overflow = st.flOverflow

def KeepsState (ov : Nat → Nat) (s s' : Src) (slot : Nat) (st : Opened) : Prop :=
  s'.size = s.size ∧ Src.AgreeOn s s' (slot * pagesize) (slot * pagesize + pagesize) ∧
  ∀ r ∈ st.runs ov, Src.AgreeOn s s' (r.1 * pagesize) ((r.1 + r.2 + 1) * pagesize)

/-- the header in the other slot (if it verifies at all) loses the choice against `m` sitting in `slot`:
`DBInner::meta` prefers slot 0 only when its transaction id is strictly greater.  A verifying rival of another page
size is not a loss but the documented panic (`assert_eq!` in `DBInner::meta`; `selectSlots` gives `.pagesizeMismatch`) -/
def OtherLoses (slot : Nat) (o : Option MetaRec) (m : MetaRec) : Prop :=
  match o with
  | none => True
  | some m' => m'.pagesize = pagesize ∧ (if slot = 0 then m.txId > m'.txId else ¬ m'.txId > m.txId)

theorem slotValid_agree (W : L.WFM) (hrec : L.pgPtr + L.metaSize ≤ pagesize) (s s' : Src) (slot : Nat)
    (hsz : s'.size = s.size) (h : Src.AgreeOn s s' (slot * pagesize) (slot * pagesize + pagesize)) :
    slotValid L order s' pagesize slot = slotValid L order s pagesize slot := by
  have hty : L.pgType < pagesize :=
    Nat.lt_of_lt_of_le (Nat.lt_of_lt_of_le (Nat.lt_of_lt_of_le W.pg2 (Nat.le_of_add_right_le W.pg3))
      (Nat.le_of_add_right_le W.pg4)) (Nat.le_of_add_right_le hrec)
  rw [slotValid_eq, slotValid_eq, hsz, readMeta_agree W (h.mono (Nat.le_add_right _ _) (record_in_page hrec _)),
    h (slot * pagesize + L.pgType) (Nat.le_add_right _ _) (Nat.add_lt_add_left hty _)]

/-- `Holds` without the header fields -/
structure DataStored (ov : Nat → Nat) (s : Src) (st : Opened) : Prop where
  stored : StoredV L pagesize ov s st.view
  fl : ∃ p, decodePage L s pagesize st.hdr.freelistPage = .ok p ∧ p.body = .freelist st.free ∧
    p.overflow = st.flOverflow

end

section
variable {L : Layout} {order : List MetaField} {pagesize : Nat} {ov : Nat → Nat} {s s' : Src} {slot : Nat} {st : Opened}

theorem KeepsState.size (k : KeepsState pagesize ov s s' slot st) : s'.size = s.size := k.1

theorem KeepsState.page (k : KeepsState pagesize ov s s' slot st) :
    Src.AgreeOn s s' (slot * pagesize) (slot * pagesize + pagesize) := k.2.1

theorem KeepsState.runs (k : KeepsState pagesize ov s s' slot st) :
    ∀ r ∈ st.runs ov, Src.AgreeOn s s' (r.1 * pagesize) ((r.1 + r.2 + 1) * pagesize) := k.2.2

theorem OtherLoses.of_none {o : Option MetaRec} {m : MetaRec} (e : o = none) : OtherLoses pagesize slot o m :=
  e ▸ trivial

theorem OtherLoses.of_older {m' m : MetaRec} (hps : m'.pagesize = pagesize) (h : m'.txId < m.txId) :
    OtherLoses pagesize slot (some m') m :=
  ⟨hps, by split <;> omega⟩

theorem Holds.dataStored (h : Holds L order pagesize ov s slot st) : DataStored L pagesize ov s st := ⟨h.stored, h.fl⟩

theorem Opened.mem_runs {r : Nat × Nat} :
    r ∈ st.runs ov ↔ r = (st.hdr.freelistPage, st.flOverflow) ∨ r ∈ st.view.allRuns ov :=
  List.mem_cons

end

section
variable {L : Layout} {order : List MetaField} {pagesize : Nat}

theorem dataStored_reads (WE : L.WF) (hhdr : L.pageSize ≤ pagesize) (ov : Nat → Nat) (st : Opened) :
    ReadsRuns pagesize (st.runs ov) (fun s => DataStored L pagesize ov s st) := by
  intro s s' hsz hag h
  obtain ⟨p, hp, hb, ho⟩ := h.fl
  refine ⟨storedV_reads WE hhdr ov st.view s s' hsz (fun r hr => hag r (Opened.mem_runs.2 (.inr hr))) h.stored,
    p, ?_, hb, ho⟩
  exact decodePage_reads WE hhdr _ p (by intro m; rw [hb]; intro e; cases e) s s' hsz
    (fun r hr => hag r (Opened.mem_runs.2 (.inl (by rw [List.mem_singleton.1 hr, ho])))) hp

theorem openSelect_of_wins (s : Src) (slot : Nat) (hslot : slot = 0 ∨ slot = 1) (m : MetaRec)
    (hv : slotValid L order s pagesize slot = some m) (hps : m.pagesize = pagesize)
    (ho : OtherLoses pagesize slot (slotValid L order s pagesize (1 - slot)) m) :
    openSelect L order s pagesize = .ok m := by
  have key : selectSlots (slotValid L order s pagesize 0) (slotValid L order s pagesize 1) pagesize = .ok (some m) := by
    rcases hslot with rfl | rfl
    · rw [hv]
      cases h1 : slotValid L order s pagesize (1 - 0) with
      | none => exact selectSlots_some_none m _ hps
      | some b =>
        rw [h1] at ho
        rw [selectSlots_some_some m b _ hps ho.1, if_pos (show m.txId > b.txId from ho.2)]
    · rw [hv]
      cases h0 : slotValid L order s pagesize (1 - 1) with
      | none => exact selectSlots_none_some m _ hps
      | some a =>
        rw [h0] at ho
        rw [selectSlots_some_some a m _ ho.1 hps, if_neg (show ¬ a.txId > m.txId from ho.2)]
  rw [openSelect, key]

theorem opens_of_holds_wins {ov : Nat → Nat} {s : Src} {slot : Nat} (hslot : slot = 0 ∨ slot = 1) {st : Opened}
    (h : Holds L order pagesize ov s slot st)
    (ho : OtherLoses pagesize slot (slotValid L order s pagesize (1 - slot)) st.hdr)
    (fuel : Nat) (hf : st.view.weight ≤ fuel) :
    openFile L order pagesize fuel s = some st := by
  obtain ⟨p, hp, hb, hov⟩ := h.fl
  have hv := viewBucket_stored ov s st.view fuel h.stored h.ok hf
  unfold openFile
  rw [openSelect_of_wins s slot hslot st.hdr h.valid h.ps ho]
  simp only
  rw [h.root, h.next, hv]
  simp only
  rw [hp]
  simp only [hb, hov]

theorem slotValid_writeMetaPage (W : L.WFM) (slot : Nat) (m : MetaRec) (s : Src)
    (hfile : slot * pagesize + pagesize ≤ s.size) (hrec : L.pgPtr + L.metaSize ≤ pagesize)
    (hm : m.fits L = true) (hv : metaValid L order m = true) :
    slotValid L order (writeMetaPage L pagesize slot m s) pagesize slot = some m := by
  have H := writeMetaPage_spec W pagesize slot m s hrec
  have hsz := writeMetaPage_size L pagesize slot m s
  rw [slotValid_eq, hsz, readMeta_of_hasAt H.record hm, H.ty.byte W.tm,
    if_neg (Nat.not_lt.2 (Nat.le_trans (record_in_page hrec _) hfile)),
    if_neg (by simp), if_pos hv]

theorem writeMetaPage_writes (W : L.WFM) (hrec : L.pgPtr + L.metaSize ≤ pagesize) (slot : Nat) (m : MetaRec) :
    WritesRuns pagesize [(slot, 0)] (writeMetaPage L pagesize slot m) :=
  fun s => ⟨writeMetaPage_size L pagesize slot m s, fun _ hi =>
    writeMetaPage_frame W hrec slot m s (runOut_page.1 hi)⟩

theorem writeFreelistPage_writes (W : L.WFM) (pid overflow : Nat) (ids : List Nat)
    (hfit : L.pgPtr + 8 * ids.length ≤ (overflow + 1) * pagesize) :
    WritesRuns pagesize [(pid, overflow)] (writeFreelistPage L pagesize pid overflow ids) :=
  .of_frame hfit fun s => ⟨writeFreelistPage_size L pagesize pid overflow ids s,
    applyWrites_frame (freelistPageWrites_spec W pagesize pid overflow ids).2 s⟩

theorem slot_lt_two {slot : Nat} (h : slot = 0 ∨ slot = 1) : slot < 2 := by
  rcases h with rfl | rfl
  · exact Nat.zero_lt_two
  · exact Nat.one_lt_two

theorem other_slot {slot : Nat} (h : slot = 0 ∨ slot = 1) : 1 - slot = 0 ∨ 1 - slot = 1 := by
  rcases h with rfl | rfl
  · exact .inr rfl
  · exact .inl rfl

theorem other_other {slot : Nat} (h : slot = 0 ∨ slot = 1) : 1 - (1 - slot) = slot := by
  rcases h with rfl | rfl
  · rfl
  · rfl

theorem header_page_end_le {slot p : Nat} (hslot : slot = 0 ∨ slot = 1) (hp : 2 ≤ p) :
    slot * pagesize + pagesize ≤ p * pagesize :=
  Nat.succ_mul slot pagesize ▸ Nat.mul_le_mul_right _ (Nat.le_trans (slot_lt_two hslot) hp)

theorem runsDisjoint_header_page {slot : Nat} (hslot : slot = 0 ∨ slot = 1) {r : Nat × Nat} (hr : 2 ≤ r.1) :
    ∀ b ∈ [(slot, 0)], runsDisjoint r b :=
  fun _ hb => List.mem_singleton.1 hb ▸ .inr (Nat.lt_of_lt_of_le (slot_lt_two hslot) hr)

theorem keepsState_of_runOut {ov : Nat → Nat} {s s' : Src} {slot : Nat} {st : Opened} {wr : List (Nat × Nat)}
    (hsz : s'.size = s.size) (hout : ∀ i, RunOut pagesize wr i → s'.get i = s.get i)
    (hpage : ∀ b ∈ wr, runsDisjoint (slot, 0) b) (hruns : ∀ a ∈ st.runs ov, ∀ b ∈ wr, runsDisjoint a b) :
    KeepsState pagesize ov s s' slot st :=
  ⟨hsz, Nat.succ_mul slot pagesize ▸ agreeOn_of_runOut hout hpage, fun r hr => agreeOn_of_runOut hout (hruns r hr)⟩

/-- a list of pages is a list of runs without overflow -/
theorem keepsState_of_page_writes (hps : 0 < pagesize) (ov : Nat → Nat) (s s' : Src) (slot : Nat)
    (hslot : slot = 0 ∨ slot = 1) (old : Opened) (pages : List Nat) (hsz : s'.size = s.size)
    (hsame : ∀ i, i / pagesize ∉ pages → s'.get i = s.get i)
    (h2 : ∀ p ∈ pages, 2 ≤ p)
    (hdisj : ∀ r ∈ old.runs ov, ∀ d, d ≤ r.2 → r.1 + d ∉ pages) :
    KeepsState pagesize ov s s' slot old := by
  refine keepsState_of_runOut (wr := pages.map (·, 0)) hsz (fun i hi => hsame i fun hin => ?_)
    (List.forall_mem_map.2 fun p hp => .inl (Nat.lt_of_lt_of_le (slot_lt_two hslot) (h2 p hp)))
    fun r hr => List.forall_mem_map.2 fun p hp => ?_
  · -- byte `i` lies in page `i / pagesize`
    rcases runOut_page.1 fun r hr => hi r (List.mem_singleton.1 hr ▸ List.mem_map_of_mem hin) with h | h
    · exact Nat.not_lt.2 (Nat.div_mul_le_self i pagesize) h
    · exact Nat.not_le.2 (Nat.lt_div_mul_add hps) h
  · rcases Nat.lt_or_ge p r.1 with h | hlo
    · exact .inr h
    · obtain ⟨d, rfl⟩ := Nat.exists_eq_add_of_le hlo
      exact .inl (Nat.add_lt_add_left (Nat.lt_of_not_le fun hd => hdisj r hr d hd hp) r.1)

theorem keepsState_of_header_page (ov : Nat → Nat) (s d : Src) (slot : Nat) (hslot : slot = 0 ∨ slot = 1)
    (st : Opened) (hsz : d.size = s.size)
    (hout : ∀ i, RunOut pagesize [(1 - slot, 0)] i → d.get i = s.get i)
    (habove : ∀ r ∈ st.runs ov, 2 ≤ r.1) : KeepsState pagesize ov s d slot st := by
  refine keepsState_of_runOut hsz hout (fun b hb => ?_)
    fun r hr => runsDisjoint_header_page (other_slot hslot) (habove r hr)
  rw [List.mem_singleton.1 hb]
  rcases hslot with rfl | rfl
  · exact .inl Nat.zero_lt_one
  · exact .inr Nat.zero_lt_one

/-- `d` is any source, not `writeMetaPage …`: a torn header write that happens to verify is covered as well -/
theorem holds_of_header_page (WE : L.WF) (hhdr : L.pageSize ≤ pagesize) {ov : Nat → Nat} {s1 d : Src} {slot : Nat}
    (hslot : slot = 0 ∨ slot = 1) {st : Opened} (hsz : d.size = s1.size)
    (hout : ∀ i, RunOut pagesize [(slot, 0)] i → d.get i = s1.get i)
    (hv : slotValid L order d pagesize slot = some st.hdr) (hps : st.hdr.pagesize = pagesize)
    (hdata : DataStored L pagesize ov s1 st) (hok : ViewOK st.view)
    (hroot : st.hdr.rootPage = st.view.tree.pid) (hnext : st.hdr.nextInt = st.view.nextInt)
    (hruns : ∀ r ∈ st.runs ov, 2 ≤ r.1) :
    Holds L order pagesize ov d slot st := by
  have hd := dataStored_reads WE hhdr ov st s1 d hsz
    (fun r hr => agreeOn_of_runOut hout (runsDisjoint_header_page hslot (hruns r hr))) hdata
  exact ⟨hv, hps, hd.stored, hok, hroot, hnext, hd.fl⟩

theorem holds_of_header_write (WE : L.WF) (W : L.WFM) (hrec : L.pgPtr + L.metaSize ≤ pagesize)
    (hhdr : L.pageSize ≤ pagesize) (ov : Nat → Nat) (s1 : Src) (slot : Nat) (st : Opened)
    (hslot : slot = 0 ∨ slot = 1) (hfile : slot * pagesize + pagesize ≤ s1.size)
    (hm : st.hdr.fits L = true) (hv : metaValid L order st.hdr = true) (hps : st.hdr.pagesize = pagesize)
    (hdata : DataStored L pagesize ov s1 st) (hok : ViewOK st.view)
    (hroot : st.hdr.rootPage = st.view.tree.pid) (hnext : st.hdr.nextInt = st.view.nextInt)
    (hruns : ∀ r ∈ st.runs ov, 2 ≤ r.1) :
    Holds L order pagesize ov (writeMetaPage L pagesize slot st.hdr s1) slot st :=
  have hw := writeMetaPage_writes W hrec slot st.hdr
  holds_of_header_page WE hhdr hslot (hw.size s1) (fun _ => hw.get s1)
    (slotValid_writeMetaPage W slot st.hdr s1 hfile hrec hm hv) hps hdata hok hroot hnext hruns

end

section
variable (L : Layout) (order : List MetaField) (pagesize : Nat)

theorem Holds.transfer (WE : L.WF) (W : L.WFM) (hrec : L.pgPtr + L.metaSize ≤ pagesize) (hhdr : L.pageSize ≤ pagesize)
    {ov : Nat → Nat} {s s' : Src} {slot : Nat} {st : Opened}
    (h : Holds L order pagesize ov s slot st) (k : KeepsState pagesize ov s s' slot st) :
    Holds L order pagesize ov s' slot st := by
  have hd := dataStored_reads WE hhdr ov st s s' k.size k.runs h.dataStored
  refine ⟨?_, h.ps, hd.stored, h.ok, h.root, h.next, hd.fl⟩
  rw [slotValid_agree L order pagesize W hrec s s' slot k.size k.page]
  exact h.valid

end
end Jamm
