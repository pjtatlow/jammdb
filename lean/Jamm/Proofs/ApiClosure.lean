/-
The closures of `Model/Api.lean` (`notSendFix`, `mappedFix`) run one round per type of the crate.  Past the
first fixed point a round changes nothing, so an evaluation may stop there: C14 rewrites with `notSend_eq_iterStop` /
`mappedTypes_eq_iterStop` before it evaluates its tables.
-/
import Jamm.Model.Api

namespace Jamm

def iterStop {α : Type} [DecidableEq α] (f : α → α) : Nat → α → α
  | 0, a => a
  | n + 1, a => if f a = a then a else iterStop f n (f a)

theorem eq_iterStop {α : Type} [DecidableEq α] {f : α → α} {fix : Nat → α → α}
    (h0 : ∀ a, fix 0 a = a) (hs : ∀ n a, fix (n + 1) a = fix n (f a)) : ∀ n a, fix n a = iterStop f n a
  | 0, a => h0 a
  | n + 1, a => by
    rw [hs, iterStop]
    split
    next h =>
      have stay : ∀ m, fix m a = a := fun m => by
        induction m with
        | zero => exact h0 a
        | succ m ih => rw [hs, h, ih]
      rw [h, stay]
    next => exact eq_iterStop h0 hs n _

theorem notSend_eq_iterStop (types : List ApiType) (name : String) :
    notSend types name = (iterStop (notSendStep types) types.length []).contains name := by
  rw [notSend, eq_iterStop (fix := notSendFix types) (fun _ => rfl) (fun _ _ => rfl)]

theorem mappedTypes_eq_iterStop (types : List ApiType) :
    mappedTypes types = iterStop (mappedStep types) types.length [] :=
  eq_iterStop (fun _ => rfl) (fun _ _ => rfl) ..

end Jamm
