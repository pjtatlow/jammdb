/-
The executable well-formedness check is sound: a tree it accepts satisfies `WF`, so every Layer Q/T
theorem applies to it.  This is what lets the correspondence run evaluate `WF` on real file bytes.
`inLoB_iff`, `inHiB_iff` and `leafTest_sound` (the leaf test, which `wfb` and `wfsb` share word for word) also serve
`wfsb_sound` in `CommitInvLemmas`.  At the end, what the other functions of `Model/FileCheck` compute: `unfoldT_inv` /
`unfoldF_inv` (the only way from an unfolded tree back to `pg pid`) and the equations of `BucketView.runs` / `expandRuns`.
-/
import Jamm.Model.FileCheck
import Jamm.Proofs.ForestLemmas
open Std

namespace Jamm

section
variable {K E : Type} [Ord K]

theorem inLoB_iff (lo : Option K) (k : K) : inLoB lo k = true ↔ inLo lo k := by
  cases lo <;> simp [inLoB, inLo]

theorem inHiB_iff (hi : Option K) (k : K) : inHiB hi k = true ↔ inHi hi k := by
  cases hi <;> simp [inHiB, inHi]

theorem sortedB_iff (es : List (K × E)) : sortedB es = true ↔ Spec.Sorted es := by
  induction es with
  | nil => simp [sortedB, Spec.Sorted]
  | cons a rest ih =>
    cases rest with
    | nil => simp [sortedB, Spec.Sorted]
    | cons b rest' =>
      obtain ⟨a1, a2⟩ := a
      obtain ⟨b1, b2⟩ := b
      simp only [sortedB, Spec.Sorted, Bool.and_eq_true]
      rw [ih]

theorem leafTest_sound {lo hi : Option K} {es : List (K × E)}
    (h : (sortedB es && es.all (fun e => inLoB lo e.1 && inHiB hi e.1)) = true) :
    Spec.Sorted es ∧ ∀ e ∈ es, inLo lo e.1 ∧ inHi hi e.1 := by
  simp only [Bool.and_eq_true, List.all_eq_true] at h
  exact ⟨(sortedB_iff es).mp h.1,
    fun e he => ⟨(inLoB_iff lo e.1).mp (h.2 e he).1, (inHiB_iff hi e.1).mp (h.2 e he).2⟩⟩

end

variable {K E : Type} [Ord K] [TransOrd K] [LawfulEqOrd K] [DecidableEq K]

/-- `wffb` takes the forest whole, `WFF` its first entry apart; the empty forest is no branch's -/
def WFForest (lo hi : Option K) : Forest K E → Prop
  | .nil => False
  | .cons k t rest => WFF lo hi k t rest

section
-- `[TransOrd K] [LawfulEqOrd K] [DecidableEq K]` are in the statements of both and are not used
set_option linter.unusedSectionVars false

mutual
theorem wfb_sound (lo hi : Option K) (t : Tree K E) (h : wfb lo hi t = true) : WF lo hi t := by
  match t with
  | .leaf p es =>
    rw [wfb] at h
    exact WF.leaf lo hi p es (leafTest_sound h).1 (leafTest_sound h).2
  | .branch p kids =>
    simp only [wfb] at h
    have hf := wffb_sound lo hi kids h
    -- no case for `.nil`: `WFForest lo hi .nil` is `False`
    match kids, hf with
    | .cons k t' rest, hf => exact WF.branch lo hi p k t' rest hf
theorem wffb_sound (lo hi : Option K) (f : Forest K E)
    (h : wffb lo hi f = true) : WFForest lo hi f := by
  match f with
  | .nil => simp [wffb] at h
  | .cons k t .nil =>
    simp only [wffb] at h
    exact WFF.last lo hi k t (wfb_sound lo hi t h)
  | .cons k t (.cons k' t' rest') =>
    simp only [wffb, Bool.and_eq_true] at h
    obtain ⟨⟨⟨⟨h1, h2⟩, h3⟩, h4⟩, h5⟩ := h
    exact WFF.cons lo hi k t k' t' rest' h1 ((inLoB_iff lo k').mp h2) ((inHiB_iff hi k').mp h3)
      (wfb_sound lo (some k') t h4) (wffb_sound (some k') hi (.cons k' t' rest') h5)
end

end

theorem unfoldT_inv {pg : PageStore} {fuel pid : Nat} {t : Tree Bytes LeafVal}
    (h : unfoldT pg fuel pid = some t) :
    ∃ f p, fuel = f + 1 ∧ pg pid = some p ∧
      match t with
      | .leaf q es => q = pid ∧ p.body = .leaf es
      | .branch q kids => q = pid ∧ ∃ es, p.body = .branch es ∧ unfoldF pg f es = some kids := by
  cases fuel with
  | zero => simp [unfoldT] at h
  | succ f =>
    unfold unfoldT at h
    split at h
    · rename_i p hp
      refine ⟨f, p, rfl, hp, ?_⟩
      split at h
      · rename_i es hb
        cases h
        exact ⟨rfl, hb⟩
      · rename_i es hb
        obtain ⟨kids, hk, rfl⟩ := Option.map_eq_some_iff.mp h
        exact ⟨rfl, es, hb, hk⟩
      · cases h
    · cases h

theorem unfoldF_inv {pg : PageStore} {fuel : Nat} {es : List (Bytes × Nat)} {kids : Forest Bytes LeafVal}
    (h : unfoldF pg fuel es = some kids) :
    match kids with
    | .nil => es = []
    | .cons k t rest =>
      ∃ c es', es = (k, c) :: es' ∧ unfoldT pg fuel c = some t ∧ unfoldF pg fuel es' = some rest := by
  unfold unfoldF at h
  split at h
  · cases h
    rfl
  · split at h
    · rename_i t rest h1 h2
      cases h
      exact ⟨_, _, rfl, h1, h2⟩
    · cases h

theorem unfoldF_keys {pg : PageStore} : ∀ (kids : Forest Bytes LeafVal) (fuel : Nat) (es : List (Bytes × Nat)),
    unfoldF pg fuel es = some kids → kids.keys = es.map (·.1)
  | .nil, _, _, h => by rw [unfoldF_inv h]; rfl
  | .cons k t rest, fuel, es, h => by
    obtain ⟨c, es', rfl, _, h2⟩ := unfoldF_inv h
    simp only [Forest.keys_cons, List.map_cons, unfoldF_keys rest fuel es' h2]

def runOf (pg : PageStore) (p : Nat) : Nat × Nat :=
  (p, match pg p with | some q => q.overflow + 1 | none => 1)

/-- `BucketView.runs` is by well-founded recursion and does not unfold by `rfl`; the equation also gives the function
it maps over the page ids its name, `runOf` -/
theorem BucketView.runs_eq (pg : PageStore) (b : BucketView) :
    b.runs pg = b.tree.pids.map (runOf pg) ++ b.subs.flatMap (fun s => s.2.runs pg) := by
  rw [BucketView.runs]
  rfl

theorem expandRuns_append (a b : List (Nat × Nat)) : expandRuns (a ++ b) = expandRuns a ++ expandRuns b := by
  simp [expandRuns]

theorem expandRuns_nil : expandRuns [] = [] := rfl

end Jamm
