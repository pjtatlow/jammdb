/-
Layer C: `spill` (node split at commit).  `spillT` keeps a node the transaction has not materialised and cuts a
materialised one into pieces.  For the separator invariant the statement is: the pieces a node is written as, put
side by side under one branch, form a well-formed branch for the bounds of the node — where the lower bound of
the node is either absent (leftmost spine) or the key its parent holds for it (`spillT_pieces_wfs`).  `spill`
re-keys every materialised node by its first key and so restores full tightness from `TightMT`: off the leftmost
spine every piece is tight under its own key, on it the pieces side by side are a tight branch.  `spillRoot` adds
new roots above a split root: the loop keeps whatever one round hands on (`spillRoot_induct`), and it terminates
(`spillRoot_done`).  What holds of each piece by itself goes through `spillT_all` (then `spillRoot_induct`); what holds
of the pieces side by side (`spillT_pieces_wfs`, `spillT_tight_none`) has its own induction, with `split_wfs` /
`chunks_tight` for the cut.  A written piece has pid 0 (not materialised, no page), a new root pid 1 (materialised: the
next round spills it).
-/
import Jamm.Proofs.SplitLemmas
import Jamm.Proofs.CommitRebalance
open Std

namespace Jamm

theorem nodeMat_zero : nodeMat 0 = false := by decide
theorem nodeMat_one : nodeMat 1 = true := by decide

section
variable {E : Type} {p : Params} {pagesize hdr leafHdr branchHdr : Nat} {esz : Bytes × E → Nat}

theorem spillF_nil : spillF p pagesize hdr leafHdr branchHdr esz (.nil : Forest Bytes E) = [] := rfl

theorem spillF_cons (k : Bytes) (t : Tree Bytes E) (rest : Forest Bytes E) :
    spillF p pagesize hdr leafHdr branchHdr esz (.cons k t rest) =
      spillT p pagesize hdr leafHdr branchHdr esz k t ++ spillF p pagesize hdr leafHdr branchHdr esz rest := rfl

theorem spillF_eq (f : Forest Bytes E) : spillF p pagesize hdr leafHdr branchHdr esz f =
    f.toList.flatMap (fun e => spillT p pagesize hdr leafHdr branchHdr esz e.1 e.2) :=
  Forest.eq_flatMap rfl (fun _ _ _ => rfl) f

theorem mem_spillF {f : Forest Bytes E} {q : Bytes × Tree Bytes E} :
    q ∈ spillF p pagesize hdr leafHdr branchHdr esz f ↔
      ∃ kid ∈ f.toList, q ∈ spillT p pagesize hdr leafHdr branchHdr esz kid.1 kid.2 :=
  Forest.mem_flatMap_of rfl fun _ _ _ => rfl

theorem spillT_unmat_eq (key : Bytes) (t : Tree Bytes E) (h : nodeMat t.pid = false) :
    spillT p pagesize hdr leafHdr branchHdr esz key t = [(key, t)] := by
  cases t with
  | leaf pid es =>
    simp only [Tree.pid] at h
    simp [spillT, h]
  | branch pid kids =>
    simp only [Tree.pid] at h
    simp [spillT, h]

theorem spillT_leaf_mat {key : Bytes} {pid : Nat} {es : List (Bytes × E)} (h : nodeMat pid = true) :
    spillT p pagesize hdr leafHdr branchHdr esz key (.leaf pid es) =
      (cutAt es (splitIndexes p pagesize hdr leafHdr (es.map esz)) 0).map
        fun c => (firstKeyOr key c, .leaf 0 c) := by
  simp [spillT, h]

theorem spillT_branch_mat {key : Bytes} {pid : Nat} {kids : Forest Bytes E} (h : nodeMat pid = true) :
    spillT p pagesize hdr leafHdr branchHdr esz key (.branch pid kids) =
      (cutAt (spillF p pagesize hdr leafHdr branchHdr esz kids)
        (splitIndexes p pagesize hdr branchHdr
          ((spillF p pagesize hdr leafHdr branchHdr esz kids).map (·.1.length))) 0).map
        fun c => (firstKeyOr key c, .branch 0 (Forest.ofList c)) := by
  simp [spillT, h]

theorem spillT_ne_nil (key : Bytes) (t : Tree Bytes E) :
    spillT p pagesize hdr leafHdr branchHdr esz key t ≠ [] := by
  cases hm : nodeMat t.pid with
  | false =>
    rw [spillT_unmat_eq key t hm]
    exact List.cons_ne_nil _ _
  | true =>
    cases t with
    | leaf pid es =>
      rw [spillT_leaf_mat (pid := pid) hm]
      exact mt List.map_eq_nil_iff.1 (cutAt_ne_nil _ _ _)
    | branch pid kids =>
      rw [spillT_branch_mat (pid := pid) hm]
      exact mt List.map_eq_nil_iff.1 (cutAt_ne_nil _ _ _)

/-- what holds of every piece a node is written as: `unmat`, of the node itself if the transaction has not
materialised it; `leaf`, of a leaf over a chunk of its entries; `branch`, of a branch over a chunk of pieces of its
children of which it holds (`c ∈ cutAt …` is there for facts about the size of a chunk, `split_chunks_cases`) -/
theorem spillT_all {Q : Bytes → Tree Bytes E → Bytes × Tree Bytes E → Prop}
    (unmat : ∀ key t, nodeMat t.pid = false → Q key t (key, t))
    (leaf : ∀ key pid es c, c ∈ cutAt es (splitIndexes p pagesize hdr leafHdr (es.map esz)) 0 →
      Q key (.leaf pid es) (firstKeyOr key c, .leaf 0 c))
    (branch : ∀ key pid kids c,
      c ∈ cutAt (spillF p pagesize hdr leafHdr branchHdr esz kids)
        (splitIndexes p pagesize hdr branchHdr
          ((spillF p pagesize hdr leafHdr branchHdr esz kids).map (·.1.length))) 0 →
      (∀ e ∈ c, ∃ kid ∈ kids.toList, Q kid.1 kid.2 e) →
      Q key (.branch pid kids) (firstKeyOr key c, .branch 0 (Forest.ofList c)))
    (key : Bytes) (t : Tree Bytes E) :
    ∀ q ∈ spillT p pagesize hdr leafHdr branchHdr esz key t, Q key t q := by
  intro q hq
  induction t using Tree.ind_kids generalizing key q with
  | h t ih =>
    cases hm : nodeMat t.pid with
    | false =>
      rw [spillT_unmat_eq key t hm, List.mem_singleton] at hq
      exact hq ▸ unmat key _ hm
    | true =>
      rcases t with ⟨pid, es⟩ | ⟨pid, kids⟩
      · rw [spillT_leaf_mat (pid := pid) hm] at hq
        obtain ⟨c, hc, rfl⟩ := List.mem_map.1 hq
        exact leaf key pid es c hc
      · rw [spillT_branch_mat (pid := pid) hm] at hq
        obtain ⟨c, hc, rfl⟩ := List.mem_map.1 hq
        refine branch key pid kids c hc fun e he => ?_
        obtain ⟨kid, hkid, hek⟩ := mem_spillF.1 (mem_of_mem_cutAt hc he)
        exact ⟨kid, hkid, ih kid hkid kid.1 e hek⟩

theorem spillT_pieces_unmat (key : Bytes) (t : Tree Bytes E) :
    ∀ q ∈ spillT p pagesize hdr leafHdr branchHdr esz key t, nodeMat q.2.pid = false :=
  spillT_all (Q := fun _ _ q => nodeMat q.2.pid = false) (fun _ _ h => h) (fun _ _ _ _ _ => nodeMat_zero)
    (fun _ _ _ _ _ _ => nodeMat_zero) key t

theorem spillF_ofList (l : List (Bytes × Tree Bytes E)) (h : ∀ q ∈ l, nodeMat q.2.pid = false) :
    spillF p pagesize hdr leafHdr branchHdr esz (Forest.ofList l) = l := by
  induction l with
  | nil => rfl
  | cons a rest ih =>
    obtain ⟨k, t⟩ := a
    rw [Forest.ofList, spillF_cons, spillT_unmat_eq k t (h (k, t) List.mem_cons_self),
      ih (fun q hq => h q (List.mem_cons_of_mem _ hq))]
    rfl

theorem spillT_newRoot_length_lt (h1 : 1 ≤ p.minKeysPerNode) (key : Bytes)
    (many : List (Bytes × Tree Bytes E)) (h : ∀ q ∈ many, nodeMat q.2.pid = false)
    (hlen : 2 ≤ many.length) :
    (spillT p pagesize hdr leafHdr branchHdr esz key (.branch 1 (Forest.ofList many))).length + 1 ≤
      many.length := by
  rw [spillT_branch_mat nodeMat_one, List.length_map, spillF_ofList many h]
  exact split_chunks_count p h1 pagesize hdr branchHdr _ many (by simp) hlen

theorem spillF_ne_nil (f : Forest Bytes E) (h : f.length ≠ 0) :
    spillF p pagesize hdr leafHdr branchHdr esz f ≠ [] := by
  cases f with
  | nil => exact absurd rfl h
  | cons k t rest =>
    rw [spillF_cons, ne_eq, List.append_eq_nil_iff, not_and]
    intro h1
    exact absurd h1 (spillT_ne_nil k t)

/-- the parameters are explicit: a case split has no goal to read them from -/
theorem spillRoot_succ_cases (p : Params) (pagesize hdr leafHdr branchHdr : Nat) (esz : Bytes × E → Nat)
    (fuel : Nat) (t : Tree Bytes E) :
    (∃ k r, spillT p pagesize hdr leafHdr branchHdr esz [] t = [(k, r)] ∧
        spillRoot p pagesize hdr leafHdr branchHdr esz (fuel + 1) t = r) ∨
      (2 ≤ (spillT p pagesize hdr leafHdr branchHdr esz [] t).length ∧
        spillRoot p pagesize hdr leafHdr branchHdr esz (fuel + 1) t =
          spillRoot p pagesize hdr leafHdr branchHdr esz fuel
            (.branch 1 (Forest.ofList (spillT p pagesize hdr leafHdr branchHdr esz [] t)))) := by
  rw [spillRoot]
  split
  · rename_i heq
    exact absurd heq (spillT_ne_nil [] t)
  · rename_i k r heq
    exact .inl ⟨k, r, heq, rfl⟩
  · rename_i hne1 hne2
    refine .inr ⟨?_, rfl⟩
    generalize spillT p pagesize hdr leafHdr branchHdr esz [] t = many at hne1 hne2
    cases many with
    | nil => exact absurd rfl hne1
    | cons a r =>
      cases r with
      | nil => exact absurd rfl (hne2 a.1 a.2)
      | cons _ _ => exact Nat.le_add_left 2 _

/-- `many` is asked of every root, and a root written as one piece is the only child of the new root `many`
speaks of: `single` (what the `collapse` step of `rebalance` needs too) hands the property down to it.  A
property that holds only of a new root above at least two pieces needs `spillRoot_succ_cases`. -/
theorem spillRoot_induct {P : Tree Bytes E → Prop}
    (single : ∀ q k r, P (.branch q (.cons k r .nil)) → P r)
    (many : ∀ t, P t → P (.branch 1 (Forest.ofList (spillT p pagesize hdr leafHdr branchHdr esz [] t))))
    (fuel : Nat) (t : Tree Bytes E) (h : P t) : P (spillRoot p pagesize hdr leafHdr branchHdr esz fuel t) := by
  induction fuel generalizing t with
  | zero => exact h
  | succ fuel ih =>
    rcases spillRoot_succ_cases p pagesize hdr leafHdr branchHdr esz fuel t with ⟨k, r, heq, hr⟩ | ⟨_, hr⟩
    · rw [hr]
      have hm := many t h
      rw [heq] at hm
      exact single 1 k r hm
    · rw [hr]
      exact ih _ (many t h)

/-- a new root over n ≥ 2 pieces is written as fewer than n pieces (the cuts are distinct and lie in `[1, n - 2]`),
so as much fuel as the root has pieces is enough; "finished" is stated as: the root of the result is not a
materialised node -/
theorem spillRoot_done (h1 : 1 ≤ p.minKeysPerNode) (fuel : Nat) (t : Tree Bytes E)
    (hf : (spillT p pagesize hdr leafHdr branchHdr esz [] t).length ≤ fuel) :
    nodeMat (spillRoot p pagesize hdr leafHdr branchHdr esz fuel t).pid = false := by
  induction fuel generalizing t with
  | zero => exact absurd (List.length_eq_zero_iff.1 (Nat.le_zero.1 hf)) (spillT_ne_nil [] t)
  | succ fuel ih =>
    rcases spillRoot_succ_cases p pagesize hdr leafHdr branchHdr esz fuel t with ⟨k, r, heq, hr⟩ | ⟨hlen, hr⟩
    · rw [hr]
      exact spillT_pieces_unmat [] t (k, r) (mem_of_eq_singleton heq)
    · rw [hr]
      exact ih _ (Nat.le_of_succ_le_succ
        (Nat.le_trans (spillT_newRoot_length_lt h1 [] _ (spillT_pieces_unmat [] t) hlen) hf))

theorem spillF_flatMap_flatten (f : Forest Bytes E)
    (h : ∀ e ∈ f.toList, (spillT p pagesize hdr leafHdr branchHdr esz e.1 e.2).flatMap (·.2.flatten) = e.2.flatten) :
    (spillF p pagesize hdr leafHdr branchHdr esz f).flatMap (·.2.flatten) = Tree.flattenF f := by
  rw [spillF_eq, List.flatMap_assoc, flattenF_eq, List.flatMap_def, List.flatMap_def, List.map_congr_left h]

theorem spillT_flatten (key : Bytes) (t : Tree Bytes E) :
    (spillT p pagesize hdr leafHdr branchHdr esz key t).flatMap (·.2.flatten) = t.flatten := by
  induction t using Tree.ind_kids generalizing key with
  | h t ih =>
    cases hm : nodeMat t.pid with
    | false => rw [spillT_unmat_eq key t hm, List.flatMap_singleton]
    | true =>
      rcases t with ⟨pid, es⟩ | ⟨pid, kids⟩
      · rw [spillT_leaf_mat (pid := pid) hm, List.flatMap_map]
        simp only [Tree.flatten, List.flatMap_id', flatten_cutAt]
      · -- the chunks concatenate to the pieces of the children, and those to the children
        rw [spillT_branch_mat (pid := pid) hm, List.flatMap_map]
        simp only [Tree.flatten, flattenF_ofList]
        rw [← flatMap_flatten, flatten_cutAt]
        exact spillF_flatMap_flatten kids fun e he => ih e he e.1

theorem spillRoot_flatten (fuel : Nat) (t : Tree Bytes E) :
    (spillRoot p pagesize hdr leafHdr branchHdr esz fuel t).flatten = t.flatten :=
  spillRoot_induct (P := fun b => b.flatten = t.flatten)
    (fun _ _ _ h => by
      rwa [flatten_branch, flattenF_cons, flattenF_nil, List.append_nil] at h)
    (fun b h => by
      rw [Tree.flatten, flattenF_ofList, spillT_flatten, h])
    fuel t rfl

theorem spillT_uniform (key : Bytes) (t : Tree Bytes E) (d : Nat) (hu : UniformT d t) :
    ∀ q ∈ spillT p pagesize hdr leafHdr branchHdr esz key t, UniformT d q.2 := fun q hq =>
  spillT_all (Q := fun _ t q => ∀ d, UniformT d t → UniformT d q.2)
    (fun _ _ _ _ hu => hu)
    (fun _ _ _ _ _ _ hu => by
      cases hu
      exact .leaf _ _)
    (fun _ _ _ c _ hc d hu => by
      obtain ⟨d', rfl, hk⟩ := UniformT.branch_iff.1 hu
      refine .branch _ _ _ (uniformF_iff.2 fun e he => ?_)
      rw [Forest.toList_ofList] at he
      obtain ⟨kid, hkid, hQ⟩ := hc e he
      exact hQ d' (uniformF_iff.1 hk kid hkid))
    key t q hq d hu

theorem spillRoot_uniform (fuel : Nat) (t : Tree Bytes E) (d : Nat) (hu : UniformT d t) :
    ∃ d', UniformT d' (spillRoot p pagesize hdr leafHdr branchHdr esz fuel t) :=
  spillRoot_induct (P := fun b => ∃ d, UniformT d b)
    (fun _ k r ⟨_, h⟩ => by
      obtain ⟨d', _, hk⟩ := UniformT.branch_iff.1 h
      exact ⟨d', uniformF_iff.1 hk (k, r) List.mem_cons_self⟩)
    (fun b ⟨d, h⟩ => ⟨d + 1, .branch d 1 _ (uniformF_iff.2 (by
      rw [Forest.toList_ofList]; exact spillT_uniform [] b d h))⟩)
    fuel t ⟨d, hu⟩

theorem spillT_neb (hp : p.Valid) (key : Bytes) (t : Tree Bytes E) (h : nebT t = true) :
    ∀ q ∈ spillT p pagesize hdr leafHdr branchHdr esz key t, nebT q.2 = true := fun q hq =>
  spillT_all (Q := fun _ t q => nebT t = true → nebT q.2 = true)
    (fun _ _ _ h => h)
    (fun _ _ _ _ _ _ => rfl)
    (fun _ _ kids c hcut hc h => by
      rw [nebT_branch_iff] at h
      refine nebT_branch_ofList 0 c ?_ fun e he =>
        let ⟨kid, hkid, hQ⟩ := hc e he
        hQ (h.2 kid hkid)
      -- a chunk is empty only if the branch had no piece to cut, i.e. no child
      rcases split_chunks_cases p hp.one_le_minKeys pagesize hdr branchHdr
          ((spillF p pagesize hdr leafHdr branchHdr esz kids).map (·.1.length))
          (spillF p pagesize hdr leafHdr branchHdr esz kids) (by simp) with h1 | h1
      · exact absurd h1.1 (spillF_ne_nil kids h.1)
      · exact h1 c hcut)
    key t q hq h

theorem spillRoot_neb (hp : p.Valid) (fuel : Nat) (t : Tree Bytes E) (h : nebT t = true) :
    nebT (spillRoot p pagesize hdr leafHdr branchHdr esz fuel t) = true :=
  spillRoot_induct (P := fun b => nebT b = true)
    (fun _ k r h => (nebT_branch_iff.1 h).2 (k, r) List.mem_cons_self)
    (fun b h => nebT_branch_ofList 1 _ (spillT_ne_nil [] b) (spillT_neb hp [] b h))
    fuel t h

end

/-! `mk c` is the node with entry list `c`: a leaf, or a branch.  All that is used of it is that a well-formed
`mk` is well-formed above its own first key (`head`) and can be cut in two before any later entry (`cut`). -/

section
variable {E β : Type} (key : Bytes) (mk : List (Bytes × β) → Tree Bytes E)
  (head : ∀ {lo hi : Option Bytes} {k : Bytes} {x : β} {r : List (Bytes × β)},
    WFS lo hi (mk ((k, x) :: r)) → inLo lo k ∧ inHi hi k ∧ WFS (sepLo lo k) hi (mk ((k, x) :: r)))
  (cut : ∀ {lo hi : Option Bytes} {k : Bytes} {x₀ : β} {r₀ : List (Bytes × β)} {m : Bytes} {x : β}
    {r : List (Bytes × β)}, WFS lo hi (mk ((k, x₀) :: r₀ ++ (m, x) :: r)) →
      WFS lo (some m) (mk ((k, x₀) :: r₀)) ∧ WFS (some m) hi (mk ((m, x) :: r)))
include head cut

theorem chunks_wfs {lo hi : Option Bytes} (cs : List (List (Bytes × β))) (hne : ∀ c ∈ cs, c ≠ [])
    (hcs : cs ≠ []) (h : WFS lo hi (mk cs.flatten)) :
    WFS lo hi (.branch 0 (Forest.ofList (cs.map fun c => (firstKeyOr key c, mk c)))) := by
  induction cs generalizing lo with
  | nil => exact absurd rfl hcs
  | cons c cs' ih =>
    obtain ⟨⟨k, x⟩, r, rfl⟩ := List.exists_cons_of_ne_nil (hne c List.mem_cons_self)
    have hne' := fun c hc => hne c (List.mem_cons_of_mem _ hc)
    -- `h`, bracketed the other way (`rfl`)
    obtain ⟨hlo, hhi, h'⟩ := head (show WFS lo hi (mk ((k, x) :: (r ++ cs'.flatten))) from h)
    refine WFS.branch_iff.2 ⟨hlo, hhi, ?_⟩
    cases cs' with
    | nil =>
      rw [List.flatten_nil, List.append_nil] at h'
      exact WFFS.last_iff.2 h'
    | cons c' cs'' =>
      obtain ⟨⟨m, y⟩, r', rfl⟩ := List.exists_cons_of_ne_nil (hne' c' List.mem_cons_self)
      obtain ⟨hA, hB⟩ := cut (show WFS (sepLo lo k) hi (mk ((k, x) :: r ++ (m, y) :: (r' ++ cs''.flatten))) from h')
      -- the chunks from the second on are a well-formed branch above `m`: its entry list is the rest of this one
      obtain ⟨_, hhm, hF⟩ := WFS.branch_iff.1 (ih hne' (List.cons_ne_nil _ _) hB)
      have hkm := (head hA).2.1
      exact WFFS.cons_iff.2 ⟨hkm, inLo_sepLo (kle_of_klt hkm), hhm, hA, hF⟩

/-- `empty`, `hlo`, `hhi` serve one case only: an empty node is cut into the one chunk `[]`, written under `key`
(`split_chunks_cases`) -/
theorem split_wfs {p : Params} (h1 : 1 ≤ p.minKeysPerNode) {pagesize hdr elemHdr : Nat} {sizes : List Nat}
    (empty : ∀ lo hi, WFS lo hi (mk [])) {lo hi : Option Bytes} {ents : List (Bytes × β)}
    (hl : ents.length = sizes.length) (hlo : lo = none ∨ lo = some key) (hhi : inHi hi key)
    (h : WFS lo hi (mk ents)) :
    WFS lo hi (.branch 0 (Forest.ofList
      ((cutAt ents (splitIndexes p pagesize hdr elemHdr sizes) 0).map fun c => (firstKeyOr key c, mk c)))) := by
  rcases split_chunks_cases p h1 pagesize hdr elemHdr sizes ents hl with ⟨_, hc⟩ | hne
  · rw [hc]
    exact (empty lo hi).single hlo hhi 0
  · exact chunks_wfs key mk head cut _ hne (cutAt_ne_nil _ _ _) (by rwa [flatten_cutAt])
end

section
variable {E : Type} {p : Params} {pagesize hdr leafHdr branchHdr : Nat} {esz : Bytes × E → Nat}

theorem spillF_wfs_of {hi : Option Bytes} (rest : Forest Bytes E) (lo : Option Bytes) (k : Bytes)
    (t : Tree Bytes E) (hlo : lo = none ∨ lo = some k) (hhi : inHi hi k) (hw : WFFS lo hi k t rest)
    (H : ∀ e ∈ (k, t) :: rest.toList, ∀ (lo hi : Option Bytes), (lo = none ∨ lo = some e.1) → inHi hi e.1 →
      WFS lo hi e.2 →
      WFS lo hi (.branch 0 (Forest.ofList (spillT p pagesize hdr leafHdr branchHdr esz e.1 e.2)))) :
    WFS lo hi (.branch 0 (Forest.ofList (spillF p pagesize hdr leafHdr branchHdr esz (.cons k t rest)))) := by
  induction rest using Forest.ind generalizing lo k t with
  | nil =>
    rw [spillF_cons, spillF_nil, List.append_nil]
    exact H (k, t) List.mem_cons_self lo hi hlo hhi (WFFS.last_iff.1 hw)
  | cons k' t' rest' ih =>
    obtain ⟨hk, hlo', hhi', ht, hr⟩ := WFFS.cons_iff.1 hw
    -- two branches side by side are the merge of two adjacent nodes; `mergeInto` marks its result
    -- materialised, `repid 0` takes the mark off
    rw [spillF_cons, Forest.ofList_append]
    exact (mergeInto_wfs 0 (H (k, t) List.mem_cons_self lo (some k') hlo hk ht)
      (ih (some k') k' t' (Or.inr rfl) hhi' hr fun e he => H e (List.mem_cons_of_mem _ he))
      hlo' hhi').repid 0

theorem spillT_pieces_wfs (hp : p.Valid) (key : Bytes) (lo hi : Option Bytes) (t : Tree Bytes E)
    (hlo : lo = none ∨ lo = some key) (hhi : inHi hi key) (hw : WFS lo hi t) :
    WFS lo hi (.branch 0 (Forest.ofList (spillT p pagesize hdr leafHdr branchHdr esz key t))) := by
  induction t using Tree.ind_kids generalizing key lo hi with
  | h t ih =>
    cases hm : nodeMat t.pid with
    | false =>
      rw [spillT_unmat_eq key t hm]
      exact hw.single hlo hhi 0
    | true =>
      -- a materialised node: its entry list, spilled, is again the entry list of a well-formed node with the same
      -- bounds (leaf: unchanged; branch: `spillF_wfs_of` with `ih`), and cutting a well-formed node before first
      -- keys gives a well-formed branch over the chunks (`split_wfs`)
      rcases t with ⟨pid, es⟩ | ⟨pid, kids⟩
      · rw [spillT_leaf_mat (pid := pid) hm]
        exact split_wfs key (Tree.leaf 0) WFS.leaf_head WFS.leaf_cut hp.one_le_minKeys (fun lo hi => wfs_leaf_nil lo hi 0)
          (by simp) hlo hhi (hw.repid_leaf 0)
      · rw [spillT_branch_mat (pid := pid) hm]
        refine split_wfs key (fun c => Tree.branch 0 (Forest.ofList c)) WFS.branch_head WFS.branch_cut hp.one_le_minKeys
          (fun _ _ => WFS.emptyBranch _ _ _) (by simp) hlo hhi ?_
        cases hw with
        | emptyBranch => exact WFS.emptyBranch _ _ _
        | branch _ _ _ k t rest h1 h2 h3 =>
          -- `spillF_wfs_of` speaks at the bound of the entry list, `sepLo lo k`; the node's own bound `lo` is weaker
          exact (spillF_wfs_of rest (sepLo lo k) k t (sepLo_cases lo k) h2 h3
            fun e he lo' hi' hlo' hhi' hw' => ih e he e.1 lo' hi' hlo' hhi' hw').weaken
              (loLe_sepLo_self h1) (hiLe_refl _)

theorem spillRoot_wfs (hp : p.Valid) (fuel : Nat) (t : Tree Bytes E) (hw : WFS none none t) :
    WFS none none (spillRoot p pagesize hdr leafHdr branchHdr esz fuel t) :=
  spillRoot_induct (P := fun b => WFS none none b)
    -- the single child has the bounds of the root: `sepLo none k` is `none`
    (fun _ _ _ h => h.only_child)
    (fun b h => (spillT_pieces_wfs hp [] none none b (Or.inl rfl) trivial h).repid 1)
    fuel t hw

theorem spillT_tight_own (key : Bytes) (t : Tree Bytes E) (h : TightMT (some key) t) :
    ∀ q ∈ spillT p pagesize hdr leafHdr branchHdr esz key t, TightT (some q.1) q.2 := fun q hq =>
  spillT_all (Q := fun key t q => TightMT (some key) t → TightT (some q.1) q.2)
    (fun _ _ hm h => h.tight_of_unmat hm)
    (fun _ _ _ _ _ _ => .leaf _ _ _)
    (fun key _ _ c _ hc h => TightT.of_own key c fun e he =>
      let ⟨kid, hkid, hQ⟩ := hc e he
      hQ (h.entries_own kid hkid))
    key t q hq h

theorem chunks_tight (key : Bytes) (ents : List (Bytes × Tree Bytes E)) (idx : List Nat)
    (hpos : ∀ i ∈ idx, 0 < i) (h : TightT none (.branch 0 (Forest.ofList ents))) :
    TightT none (.branch 0 (Forest.ofList
      ((cutAt ents idx 0).map fun c => (firstKeyOr key c, Tree.branch 0 (Forest.ofList c))))) := by
  -- cuts are positive, so the first entry heads the first chunk (`cutAt_head`): that chunk alone is on the spine;
  -- every other chunk is a branch of entries tight under their own keys (`TightT.of_own`)
  cases ents with
  | nil =>
    refine TightT.none_of_own _ (fun q hq => ?_) 0
    obtain ⟨c, hc, rfl⟩ := List.mem_map.1 hq
    rw [mem_cutAt_nil idx 0 c hc]
    exact TightT.emptyBranch _ _
  | cons a l' =>
    obtain ⟨r, cs, heq, hr, hcs⟩ := cutAt_head a l' idx hpos
    obtain ⟨k, t⟩ := a
    obtain ⟨ht, hl'⟩ := tightT_none_ofList_iff.1 h
    rw [heq]
    refine tightT_none_ofList_iff.2 ⟨tightT_none_ofList_iff.2 ⟨ht, fun q hq => hl' q (hr q hq)⟩, fun q hq => ?_⟩
    obtain ⟨c, hc, rfl⟩ := List.mem_map.1 hq
    exact TightT.of_own key c fun e he => hl' e (hcs c hc e he)

theorem spillT_tight_none (key : Bytes) (t : Tree Bytes E) (h : TightMT none t) :
    TightT none (.branch 0 (Forest.ofList (spillT p pagesize hdr leafHdr branchHdr esz key t))) := by
  induction t using Tree.ind_toList generalizing key with
  | leaf pid es =>
    exact TightT.none_of_own _ (spillT_tight_own key _ (.leaf _ _ _)) 0
  | branch pid kids ih =>
    cases hm : nodeMat pid with
    | false =>
      rw [spillT_unmat_eq key (.branch pid kids) hm]
      exact tightT_none_ofList_iff.2 ⟨h.tight_of_unmat hm, fun _ he => nomatch he⟩
    | true =>
      -- `TightT none` of a branch over a list asks `TightT none` of the first entry and own-key tightness of the
      -- others (`tightT_none_ofList_iff`): the first piece comes from the first child, on the spine (`ih`), all
      -- others from `spillT_tight_own`; `chunks_tight` carries this over the cut
      rw [spillT_branch_mat hm]
      refine chunks_tight key _ _ (fun i hi => ((splitIndexes_spec _ _ _ _ _).1 i hi).1) ?_
      cases kids with
      | nil => exact TightT.emptyBranch _ _
      | cons k t₀ rest =>
        obtain ⟨h0, hr⟩ := tightMF_iff.1 h.kids
        have h1 := ih (k, t₀) List.mem_cons_self k h0
        have h2 : ∀ q ∈ spillF p pagesize hdr leafHdr branchHdr esz rest, TightT (some q.1) q.2 := by
          intro q hq
          obtain ⟨kid, hkid, hq⟩ := mem_spillF.1 hq
          exact spillT_tight_own kid.1 kid.2 (hr kid hkid) q hq
        rw [spillF_cons]
        -- the pieces of the first child come first: they carry the demand of the spine
        cases hsp : spillT p pagesize hdr leafHdr branchHdr esz k t₀ with
        | nil => exact absurd hsp (spillT_ne_nil k t₀)
        | cons a r₁ =>
          obtain ⟨k₁, t₁⟩ := a
          rw [hsp] at h1
          obtain ⟨ha, hr₁⟩ := tightT_none_ofList_iff.1 h1
          exact tightT_none_ofList_iff.2 ⟨ha, List.forall_mem_append.2 ⟨hr₁, h2⟩⟩

/-- `hdone`: the root of the result has been written, i.e. is not a materialised node (`spillRoot_done`
gives it); below such a root `TightMT` is full tightness -/
theorem spillRoot_tight (fuel : Nat) (t : Tree Bytes E) (h : TightMT none t)
    (hdone : nodeMat (spillRoot p pagesize hdr leafHdr branchHdr esz fuel t).pid = false) :
    TightT none (spillRoot p pagesize hdr leafHdr branchHdr esz fuel t) :=
  -- the loop keeps `TightMT none`: what it hands on is even fully tight
  (spillRoot_induct (P := fun b => TightMT none b)
    (fun _ _ _ h => (tightMF_iff.1 h.kids).1)
    (fun b h => ((spillT_tight_none [] b h).repid 1).toM)
    fuel t h).tight_of_unmat hdone

theorem commitTree_eq (steps : List RbStep) (touched : List Bytes) (t : Tree Bytes E) :
    commitTree p pagesize hdr leafHdr branchHdr esz steps touched t =
      spillRoot p pagesize hdr leafHdr branchHdr esz
        (spillT p pagesize hdr leafHdr branchHdr esz [] ((t.rebalance steps).touchAll touched)).length
        ((t.rebalance steps).touchAll touched) := rfl

end

/-! Nothing uses the statements from here to the end of the file.  `spillF_*`: a fact about `spillF` is the fact
about `spillT` at every entry, by `mem_spillF`; `spillT_wfs` is `spillT_pieces_wfs` and `spillRoot_terminates` is
`spillRoot_done`, each with arguments it does not use. -/

section
variable {E : Type} (p : Params) (pagesize hdr leafHdr branchHdr : Nat) (esz : Bytes × E → Nat)

theorem spillF_uniform (f : Forest Bytes E) (d : Nat) (hu : UniformF d f) :
    ∀ q ∈ spillF p pagesize hdr leafHdr branchHdr esz f, UniformT d q.2 := by
  intro q hq
  obtain ⟨kid, hkid, hq⟩ := mem_spillF.1 hq
  exact spillT_uniform kid.1 kid.2 d (uniformF_iff.1 hu kid hkid) q hq

theorem spillF_neb_aux (hp : p.Valid) (f : Forest Bytes E) (h : nebF f = true) :
    ∀ q ∈ spillF p pagesize hdr leafHdr branchHdr esz f, nebT q.2 = true := fun q hq =>
  let ⟨kid, hkid, hq⟩ := mem_spillF.1 hq
  spillT_neb hp kid.1 kid.2 (nebF_iff.1 h kid hkid) q hq

theorem spillF_wfs (hp : p.Valid) (lo hi : Option Bytes) (f : Forest Bytes E) :
    match f with
    | .nil => True
    | .cons k t rest => (lo = none ∨ lo = some k) → inHi hi k → WFFS lo hi k t rest →
      WFS lo hi (.branch 0 (Forest.ofList (spillF p pagesize hdr leafHdr branchHdr esz (.cons k t rest)))) := by
  match f with
  | .nil => trivial
  | .cons k t rest =>
    exact fun hlo hhi hw => spillF_wfs_of rest lo k t hlo hhi hw
      fun e _ lo' hi' => spillT_pieces_wfs hp e.1 lo' hi' e.2

set_option linter.unusedVariables false in
/-- `spillT_pieces_wfs`; `d` and `hu` are not used -/
theorem spillT_wfs (hp : p.Valid) (key : Bytes) (lo hi : Option Bytes) (t : Tree Bytes E) (d : Nat)
    (hlo : lo = none ∨ lo = some key) (hhi : inHi hi key)
    (hw : WFS lo hi t) (hu : UniformT d t) :
    WFS lo hi (.branch 0 (Forest.ofList (spillT p pagesize hdr leafHdr branchHdr esz key t))) :=
  spillT_pieces_wfs hp key lo hi t hlo hhi hw

set_option linter.unusedVariables false in
/-- `spillRoot_done`; of `hp` only `1 ≤ p.minKeysPerNode` is used, `h2` is not -/
theorem spillRoot_terminates (hp : p.Valid) (h2 : 2 ≤ p.minKeysPerNode) (fuel : Nat) (t : Tree Bytes E)
    (hf : (spillT p pagesize hdr leafHdr branchHdr esz [] t).length ≤ fuel) :
    nodeMat (spillRoot p pagesize hdr leafHdr branchHdr esz fuel t).pid = false :=
  spillRoot_done hp.one_le_minKeys fuel t hf

end

theorem spillF_flatten {E : Type} (p : Params) (pagesize hdr leafHdr branchHdr : Nat) (esz : Bytes × E → Nat) (f : Forest Bytes E) :
    ((spillF p pagesize hdr leafHdr branchHdr esz f).map (fun e => e.2.flatten)).flatten = Tree.flattenF f := by
  rw [← List.flatMap_def]
  exact spillF_flatMap_flatten f fun e _ => spillT_flatten e.1 e.2

end Jamm
