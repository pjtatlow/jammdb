/-
Layer C, composition: commit re-establishes the invariant of a bucket's tree (`TreeInv`).  Between the steps of a
commit (any replayed `rebalance` steps, any touches of nested-bucket headers) the tree has `MidInv`, tightness
being demanded only of the pages the transaction has not materialised; `spill` restores `TreeInv`
(`MidInv.spillRoot`).  "No childless branch" is not part of `MidInv`: any list of steps may be replayed, and a
replay can leave a childless branch (`WFS.emptyBranch`); it is a hypothesis on the rebalanced tree
(`commitTree_neb`, `commitTree_wf`), evaluated by the driver on every real replay.  The contents do not change
(`commitTree_flatten`).
-/
import Jamm.Proofs.CommitRebalance
import Jamm.Proofs.CommitTouch
import Jamm.Proofs.CommitSpill
open Std

namespace Jamm

section
variable {K E : Type} [Ord K]

structure MidInv (t : Tree K E) : Prop where
  sep : WFS none none t
  tightM : TightMT none t
  uniform : ∃ d, UniformT d t

theorem TreeInv.mid {t : Tree K E} (h : TreeInv t) : MidInv t :=
  ⟨h.sep, h.tight.toM, h.uniform⟩

theorem MidInv.touch {t : Tree K E} (h : MidInv t) (key : K) : MidInv (t.touch key) :=
  let ⟨d, hu⟩ := h.uniform
  ⟨touch_wfs h.sep key, touch_tightM h.tightM key, d, touch_uniform hu key⟩

theorem rebalance_touchAll_flatten (t : Tree K E) (d : Nat) (hu : UniformT d t) (steps : List RbStep)
    (touched : List K) : ((t.rebalance steps).touchAll touched).flatten = t.flatten := by
  -- a step needs the depth of the tree it is applied to and may change it: the fold carries "some depth"
  have h1 : (∃ d, UniformT d (t.rebalance steps)) ∧ (t.rebalance steps).flatten = t.flatten :=
    Tree.rebalance_keeps (P := fun b => (∃ d, UniformT d b) ∧ b.flatten = t.flatten)
      (fun b s ⟨⟨d, h⟩, he⟩ => ⟨rbStep_uniform h s, (rbStep_flatten h s).trans he⟩) steps t
      ⟨⟨d, hu⟩, rfl⟩
  exact Tree.touchAll_keeps (P := fun b => b.flatten = t.flatten) (fun b k he => (touch_flatten b k).trans he)
    touched _ h1.2

variable [TransOrd K] [LawfulEqOrd K]

theorem MidInv.rbStep {t : Tree K E} (h : MidInv t) (s : RbStep) : MidInv (t.rbStep s) :=
  let ⟨_, hu⟩ := h.uniform
  ⟨rbStep_keeps_wfs h.sep s, rbStep_tightM h.tightM s, rbStep_uniform hu s⟩

theorem MidInv.rebalance_touchAll {t : Tree K E} (h : MidInv t) (steps : List RbStep) (touched : List K) :
    MidInv ((t.rebalance steps).touchAll touched) :=
  Tree.touchAll_keeps (fun _ k h => h.touch k) touched _ (Tree.rebalance_keeps (fun _ s h => h.rbStep s) steps t h)

end

section
variable {E : Type} (p : Params) (pagesize hdr leafHdr branchHdr : Nat) (esz : Bytes × E → Nat)

theorem MidInv.spillRoot (hp : p.Valid) {r : Tree Bytes E} (m : MidInv r) :
    TreeInv (spillRoot p pagesize hdr leafHdr branchHdr esz
      (spillT p pagesize hdr leafHdr branchHdr esz [] r).length r) :=
  let ⟨d, hu⟩ := m.uniform
  ⟨spillRoot_wfs hp _ _ m.sep,
   -- `Nat.le_refl _`: the fuel is exactly the number of pieces of the root
   spillRoot_tight _ _ m.tightM (spillRoot_done hp.one_le_minKeys _ _ (Nat.le_refl _)),
   spillRoot_uniform _ _ d hu⟩

theorem commitTree_flatten (steps : List RbStep) (touched : List Bytes) (t : Tree Bytes E) (d : Nat)
    (hu : UniformT d t) :
    (commitTree p pagesize hdr leafHdr branchHdr esz steps touched t).flatten = t.flatten := by
  rw [commitTree_eq, spillRoot_flatten]
  exact rebalance_touchAll_flatten t d hu steps touched

theorem TreeInv.commitTree_flatten (steps : List RbStep) (touched : List Bytes) {t : Tree Bytes E} (h : TreeInv t) :
    (commitTree p pagesize hdr leafHdr branchHdr esz steps touched t).flatten = t.flatten :=
  let ⟨d, hu⟩ := h.uniform
  Jamm.commitTree_flatten p pagesize hdr leafHdr branchHdr esz steps touched t d hu

set_option linter.unusedVariables false in
/-- `h2` is `MIN_KEYS_PER_NODE = 2` (node.rs:16); the proof does not use it -/
theorem commitTree_inv (hp : p.Valid) (h2 : 2 ≤ p.minKeysPerNode) (steps : List RbStep) (touched : List Bytes)
    (t : Tree Bytes E) (h : TreeInv t) :
    TreeInv (commitTree p pagesize hdr leafHdr branchHdr esz steps touched t) :=
  (h.mid.rebalance_touchAll steps touched).spillRoot p pagesize hdr leafHdr branchHdr esz hp

theorem commitTree_neb (hp : p.Valid) (steps : List RbStep) (touched : List Bytes) (t : Tree Bytes E)
    (h : nebT ((t.rebalance steps).touchAll touched) = true) :
    nebT (commitTree p pagesize hdr leafHdr branchHdr esz steps touched t) = true := by
  rw [commitTree_eq]
  exact spillRoot_neb hp _ _ h

theorem commitTree_wf (hp : p.Valid) (h2 : 2 ≤ p.minKeysPerNode) (steps : List RbStep) (touched : List Bytes)
    (t : Tree Bytes E) (hi : TreeInv t) (h : nebT ((t.rebalance steps).touchAll touched) = true) :
    WF none none (commitTree p pagesize hdr leafHdr branchHdr esz steps touched t) :=
  wfs_wf none none _ (commitTree_inv p pagesize hdr leafHdr branchHdr esz hp h2 steps touched t hi).sep
    (commitTree_neb p pagesize hdr leafHdr branchHdr esz hp steps touched t h)

end
end Jamm
