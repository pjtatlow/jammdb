/-
Crash atomicity, durability and kill atomicity of a commit whose operations have the safe shape, which the regenerated
step order yields (`commitOps_generated`); `unsyncedShape`, the order /repo had before 937fef3, with the one fact
Props/C02 needs of it (`kill_unsynced_tail`).
-/
import Jamm.Proofs.IoBasic
import Jamm.Gen.Steps

namespace Jamm

/-- power loss: after any prefix of the commit's operations, whatever subset of the not yet
synced writes survives and however they are torn, recovery finds the previous commit complete or the
new commit complete -/
theorem crash_atomic (c : CommitCtx) (hc : c.Ok) (k : Nat) (fates : List Fate) :
    Atomic c ((({ durable := c.img0, pending := [] } : Disk).run ((safeShape c).take k)).crash fates) := by
  rw [safeShape_eq, run_take_pageWrites]
  -- `k - dirty.length = 0`: the prefix ends inside the data writes; `n + 1`: all of them are pending or synced, and
  -- `n + 1` operations of the tail have run
  match hk : k - c.dirty.length with
  | 0 => exact (crash_pageWrites_preLike c _ (fun _ he => List.mem_of_mem_take he) fates).atomic hc
  | n + 1 =>
    rw [List.take_of_length_le (by omega)]
    rcases run_safe_tail c n with h | h | h
    · rw [h]; exact (dataImg_preLike c).atomic hc
    · rw [h]
      -- only the header is pending: its fate decides
      match fates with
      | [] | .lost :: _ => exact (dataImg_preLike c).atomic hc
      | .full :: _ => exact Or.inr (postImg_recovers_post hc)
      | .torn :: _ => exact tornHdr_atomic hc
    · rw [h]; exact Or.inr (postImg_recovers_post hc)

theorem run_safe_full (c : CommitCtx) :
    ({ durable := c.img0, pending := [] } : Disk).run (safeShape c) = { durable := c.postImg, pending := [] } := by
  rw [safeShape_eq, Disk.run_append, run_pageWrites]
  rfl

/-- durability: once the last sync has completed, every later crash recovers the new commit -/
theorem durable_after_return (c : CommitCtx) (hc : c.Ok) (fates : List Fate) :
    let i := ((({ durable := c.img0, pending := [] } : Disk).run (safeShape c)).crash fates)
    recover i = some c.hpost ∧ intact i c.sdPost := by
  rw [run_safe_full]
  exact postImg_recovers_post hc

/-- the order of `write_data` in /repo before 937fef3: no sync between the data writes and the header -/
def unsyncedShape (c : CommitCtx) : List IoOp :=
  c.dirty.map (fun e => IoOp.writePage e.1 e.2) ++ [.writeHdr (1 - c.slot) c.hpost, .sync]

theorem kill_unsynced_tail (c : CommitCtx) (n : Nat) :
    (({ durable := c.img0, pending := pageWrites c.dirty } : Disk).run
      (List.take (n + 1) [.writeHdr (1 - c.slot) c.hpost, .sync])).kill = c.postImg := by
  rw [Disk.kill_run]
  match n with
  | 0 => rfl
  | n + 1 => rw [List.take_of_length_le (Nat.le_add_left 2 n)]; rfl

/-- a process kill (the operating system keeps every write issued so far) is a crash in which every
pending write survives whole -/
theorem kill_atomic (c : CommitCtx) (hc : c.Ok) (k : Nat) :
    Atomic c ((({ durable := c.img0, pending := [] } : Disk).run ((safeShape c).take k)).kill) := by
  rw [Disk.kill_eq_crash]
  exact crash_atomic c hc k _

/-- `Gen.commitSteps` is the order of `TxInner::write_data`; the steps that do no I/O vanish -/
theorem commitOps_generated (dirty : SnapDef) (slot : Nat) (h : Hdr) :
    commitOps Gen.commitSteps dirty slot h = pageWrites dirty ++ [.sync, .writeHdr slot h, .sync] := by
  simp [commitOps, Gen.commitSteps]

end Jamm
