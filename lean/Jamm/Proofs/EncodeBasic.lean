/-
Little-endian reads and the two notions the byte layer is stated in.  `Src.HasAt s off bs`: `s` holds `bs` at `off`
(what a write leaves, `hasAt_write_self`; what a decoder reads back, `HasAt.le8` / `leN` / `byte` / `bytes`).
`Src.AgreeOn s s' lo hi`: `s'` has the bytes of `s` on `[lo, hi)`; lemmas that compare two sources take the old source
first and conclude `s'.… = s.…`.  A little-endian read determines its bytes (`le_digit`, `le_inj`, `le_eq_iff`): the
checksum argument of `MetaBytes` rests on that.  `le` in a name is the little-endian read `Src.le`, not `≤`.
-/
import Jamm.Model.Encode

namespace Jamm

theorem leBytes_length (x n : Nat) : (leBytes x n).length = n := by
  simp [leBytes]

theorem leBytes_getD (x n j : Nat) (h : j < n) :
    (leBytes x n).getD j 0 = ((x / 256 ^ j) % 256).toUInt8 := by
  simp [leBytes, List.getD, h]

namespace Src

theorem le_succ (s : Src) (off n : Nat) :
    s.le off (n + 1) = (s.get off).toNat + 256 * s.le (off + 1) n := by
  simp only [Src.le, List.range_succ_eq_map, List.foldr_cons, List.foldr_map, Nat.add_zero]
  have : (fun x y => (s.get (off + Nat.succ x)).toNat + 256 * y) =
      (fun i acc => (s.get (off + 1 + i)).toNat + 256 * acc) := by
    funext x y; rw [Nat.succ_eq_add_one, Nat.add_assoc, Nat.add_comm 1 x]
  rw [this]

theorem le_one (s : Src) (off : Nat) : s.le off 1 = (s.get off).toNat := by
  simp [Src.le]

theorem le_eq_mod (s : Src) (n : Nat) : ∀ (off x : Nat),
    (∀ j, j < n → (s.get (off + j)).toNat = (x / 256 ^ j) % 256) → s.le off n = x % 256 ^ n := by
  induction n with
  | zero => intro off x _; simp [Src.le, Nat.mod_one]
  | succ n ih =>
    intro off x h
    rw [le_succ, ih (off + 1) (x / 256)]
    · have h0 := h 0 (Nat.succ_pos n)
      simp only [Nat.add_zero, Nat.pow_zero, Nat.div_one] at h0
      rw [h0, Nat.pow_succ', Nat.mod_mul]
    · intro j hj
      have := h (j + 1) (Nat.succ_lt_succ hj)
      rw [Nat.add_assoc, Nat.add_comm 1 j, this, Nat.pow_succ', Nat.div_div_eq_div_mul]

theorem le_congr (s s' : Src) (n : Nat) : ∀ off, (∀ j, j < n → s'.get (off + j) = s.get (off + j)) →
    s'.le off n = s.le off n := by
  induction n with
  | zero => intro off _; simp [Src.le]
  | succ n ih =>
    intro off h
    have h0 : s'.get off = s.get off := by simpa using h 0 (Nat.succ_pos n)
    rw [le_succ, le_succ, ih (off + 1), h0]
    intro j hj
    have := h (j + 1) (Nat.succ_lt_succ hj)
    rwa [Nat.add_assoc, Nat.add_comm 1 j]

theorem le_digit (s : Src) (n : Nat) : ∀ off j, j < n → (s.le off n / 256 ^ j) % 256 = (s.get (off + j)).toNat := by
  induction n with
  | zero => intro off j hj; omega
  | succ n ih =>
    intro off j hj
    rw [le_succ]
    have ha := UInt8.toNat_lt (s.get off)
    cases j with
    | zero => simp only [Nat.pow_zero, Nat.div_one, Nat.add_zero]; omega
    | succ j =>
      have := ih (off + 1) j (Nat.lt_of_succ_lt_succ hj)
      rw [Nat.add_assoc, Nat.add_comm 1 j] at this
      rw [← this, Nat.pow_succ', ← Nat.div_div_eq_div_mul]
      congr 2
      omega

theorem le_inj (s s' : Src) (n : Nat) (off : Nat) (h : s'.le off n = s.le off n) (j : Nat) (hj : j < n) :
    s'.get (off + j) = s.get (off + j) :=
  UInt8.toNat_inj.1 (by rw [← le_digit s' n off j hj, h, le_digit s n off j hj])

/-- offsets relative to `base`: the form of `fieldOffsets` / `checksumOffsets` (`Model/MetaBytes.lean`) -/
theorem le_eq_iff (s s' : Src) (base p n : Nat) :
    s'.le (base + p) n = s.le (base + p) n ↔ ∀ o ∈ List.range' p n, s'.get (base + o) = s.get (base + o) := by
  constructor
  · intro h o ho
    obtain ⟨h1, h2⟩ := List.mem_range'_1.1 ho
    have := le_inj s s' n _ h (o - p) (by omega)
    rwa [Nat.add_assoc, Nat.add_sub_cancel' h1] at this
  · intro h
    exact le_congr s s' n _ fun j hj => by
      rw [Nat.add_assoc]
      exact h _ (List.mem_range'_1.2 ⟨Nat.le_add_right _ _, Nat.add_lt_add_left hj _⟩)

/-- no bound is needed: an `n`-byte read is below `256 ^ n` by construction -/
theorem beBytes_le (s : Src) (off n : Nat) : beBytes (s.le off n) n = (s.bytes off n).reverse := by
  apply List.ext_getElem
  · simp [beBytes, Src.bytes]
  · intro i h1 h2
    simp only [beBytes, List.length_map, List.length_range] at h1
    simp only [beBytes, Src.bytes, List.getElem_map, List.getElem_range, List.getElem_reverse,
      List.length_map, List.length_range]
    rw [le_digit s n off (n - 1 - i) (by omega)]
    simp [Nat.toUInt8]

theorem bytes_eq_map_range (s : Src) (base p n : Nat) :
    s.bytes (base + p) n = (List.range' p n).map (fun i => s.get (base + i)) := by
  simp [Src.bytes, List.range'_eq_map_range, Nat.add_assoc]

def AgreeOn (s s' : Src) (lo hi : Nat) : Prop := ∀ i, lo ≤ i → i < hi → s'.get i = s.get i

theorem AgreeOn.mono {s s' : Src} {lo hi lo' hi' : Nat} (h : AgreeOn s s' lo hi) (h1 : lo ≤ lo') (h2 : hi' ≤ hi) :
    AgreeOn s s' lo' hi' := fun i a b => h i (by omega) (by omega)

theorem AgreeOn.le {s s' : Src} {lo hi : Nat} (h : AgreeOn s s' lo hi) (off n : Nat) (h1 : lo ≤ off)
    (h2 : off + n ≤ hi) : s'.le off n = s.le off n :=
  le_congr s s' n off fun j hj => h _ (by omega) (by omega)

theorem AgreeOn.le_off {s s' : Src} {lo hi : Nat} (h : AgreeOn s s' lo hi) (off n : Nat) (hn : lo + (off + n) ≤ hi) :
    s'.le (lo + off) n = s.le (lo + off) n :=
  h.le (lo + off) n (Nat.le_add_right _ _) (by rw [Nat.add_assoc]; exact hn)

theorem AgreeOn.bytes {s s' : Src} {lo hi : Nat} (h : AgreeOn s s' lo hi) (off n : Nat) (h1 : lo ≤ off)
    (h2 : off + n ≤ hi) : s'.bytes off n = s.bytes off n := by
  apply List.map_congr_left
  intro i hi'
  rw [List.mem_range] at hi'
  exact h _ (by omega) (by omega)

def HasAt (s : Src) (off : Nat) (bs : List UInt8) : Prop :=
  ∀ j, j < bs.length → s.get (off + j) = bs.getD j 0

theorem HasAt.bytes {s : Src} {off : Nat} {bs : List UInt8} (h : s.HasAt off bs) :
    s.bytes off bs.length = bs := by
  apply List.ext_getElem
  · simp [Src.bytes]
  · intro j h1 h2
    simp only [Src.bytes, List.getElem_map, List.getElem_range]
    rw [h j h2]
    simp [List.getD, h2]

theorem HasAt.bytes' {s : Src} {off n : Nat} {bs : List UInt8} (h : s.HasAt off bs) (hn : n = bs.length) :
    s.bytes off n = bs := by
  subst hn; exact h.bytes

theorem HasAt.leN {s : Src} {off x n : Nat} (h : s.HasAt off (leBytes x n)) (hx : x < 256 ^ n) :
    s.le off n = x := by
  rw [le_eq_mod s n off x]
  · exact Nat.mod_eq_of_lt hx
  · intro j hj
    rw [h j (by simpa [leBytes_length] using hj), leBytes_getD x n j hj]
    exact UInt8.toNat_ofNat_of_lt' (Nat.mod_lt _ (by decide))

theorem HasAt.le8 {s : Src} {off x : Nat} (h : s.HasAt off (leBytes x 8)) (hx : x < 2 ^ 64) :
    s.le off 8 = x :=
  h.leN (by simpa using hx)

theorem HasAt.byte {s : Src} {off t : Nat} (h : s.HasAt off [t.toUInt8]) (ht : t < 256) : (s.get off).toNat = t := by
  have := h 0 Nat.zero_lt_one
  rw [Nat.add_zero] at this
  rw [this]; exact UInt8.toNat_ofNat_of_lt' ht

theorem HasAt.append_left {s : Src} {off : Nat} {a b : List UInt8} (h : s.HasAt off (a ++ b)) :
    s.HasAt off a := by
  intro j hj
  rw [h j (by simp; omega)]
  simp [List.getD, List.getElem?_append_left hj]

theorem HasAt.append_right {s : Src} {off : Nat} {a b : List UInt8} (h : s.HasAt off (a ++ b)) :
    s.HasAt (off + a.length) b := by
  intro j hj
  rw [Nat.add_assoc, h (a.length + j) (by simp; omega)]
  simp [List.getD, List.getElem?_append_right]

theorem HasAt.sub {s : Src} {off o : Nat} {bs cs : List UInt8} (h : s.HasAt off bs)
    (hlen : o + cs.length ≤ bs.length)
    (hc : ∀ j, j < cs.length → bs.getD (o + j) 0 = cs.getD j 0) : s.HasAt (off + o) cs := by
  intro j hj
  rw [Nat.add_assoc, h (o + j) (by omega), hc j hj]

theorem HasAt.of_agreeOn {s t : Src} {off : Nat} {bs : List UInt8} (h : s.HasAt off bs)
    (hg : AgreeOn s t off (off + bs.length)) : t.HasAt off bs := by
  intro j hj
  rw [hg (off + j) (by omega) (by omega), h j hj]

theorem HasAt.le_zero {s : Src} {off n : Nat} (h : s.HasAt off (List.replicate n 0)) :
    s.le off n = 0 := by
  rw [le_eq_mod s n off 0]
  · exact Nat.zero_mod _
  · intro j hj
    rw [h j (by simpa using hj)]
    simp [List.getD, hj]

theorem HasAt.zeros_sub {s : Src} {off n : Nat} (h : s.HasAt off (List.replicate n 0)) (o k : Nat)
    (hk : o + k ≤ n) : s.HasAt (off + o) (List.replicate k 0) := by
  apply h.sub
  · simpa using hk
  · intro j hj
    simp only [List.length_replicate] at hj
    have h1 : o + j < n := by omega
    simp [List.getD, hj, h1]

@[simp] theorem write_size (s : Src) (off : Nat) (bs : List UInt8) : (s.write off bs).size = s.size := rfl

theorem write_get_out (s : Src) (off : Nat) (bs : List UInt8) (i : Nat)
    (h : i < off ∨ off + bs.length ≤ i) : (s.write off bs).get i = s.get i := by
  simp only [Src.write]
  rw [if_neg]; omega

theorem write_get_in (s : Src) (off : Nat) (bs : List UInt8) (j : Nat) (h : j < bs.length) :
    (s.write off bs).get (off + j) = bs.getD j 0 := by
  simp only [Src.write]
  rw [if_pos (by omega), Nat.add_sub_cancel_left]

theorem hasAt_write_self (s : Src) (off : Nat) (bs : List UInt8) : (s.write off bs).HasAt off bs :=
  fun j hj => write_get_in s off bs j hj

end Src

theorem flatMap_leBytes8_length (xs : List Nat) : (xs.flatMap (fun x => leBytes x 8)).length = 8 * xs.length := by
  induction xs with
  | nil => rfl
  | cons x rest ih =>
    rw [List.flatMap_cons, List.length_append, ih, leBytes_length, List.length_cons]; omega

theorem Src.HasAt.word {s : Src} : ∀ (xs : List Nat) (off : Nat),
    s.HasAt off (xs.flatMap (fun x => leBytes x 8)) →
    ∀ (i : Nat) (h : i < xs.length), s.HasAt (off + 8 * i) (leBytes xs[i] 8) := by
  intro xs
  induction xs with
  | nil => intro off _ i h; cases h
  | cons x rest ih =>
    intro off H i h
    rw [List.flatMap_cons] at H
    cases i with
    | zero => simpa using H.append_left
    | succ j =>
      have H2 := H.append_right
      rw [leBytes_length] at H2
      have := ih (off + 8) H2 j (by simpa using h)
      have e : off + 8 * (j + 1) = off + 8 + 8 * j := by omega
      rw [e]
      simpa using this

theorem Src.words_eq {s : Src} (xs : List Nat) (off : Nat)
    (H : s.HasAt off (xs.flatMap (fun x => leBytes x 8))) (hv : ∀ x ∈ xs, x < 2 ^ 64) :
    (List.range xs.length).map (fun i => s.le (off + 8 * i) 8) = xs := by
  apply List.ext_getElem
  · simp
  · intro i h1 h2
    simp only [List.getElem_map, List.getElem_range]
    exact (H.word xs off i h2).le8 (hv _ (List.getElem_mem h2))

theorem LeafVal.bytes_bkt_length (L : Layout) (r ni : Nat) : ((LeafVal.bkt r ni).bytes L).length = L.bmSize := by
  simp [LeafVal.bytes]

theorem LeafVal.bytes_bkt_root (L : Layout) (r ni : Nat) (h1 : L.bmRoot + 8 ≤ L.bmNextInt) (h2 : L.bmNextInt + 8 ≤ L.bmSize)
    (j : Nat) (hj : j < (leBytes r 8).length) :
    ((LeafVal.bkt r ni).bytes L).getD (L.bmRoot + j) 0 = (leBytes r 8).getD j 0 := by
  rw [leBytes_length] at hj
  have hlt : L.bmRoot + j < L.bmSize := by omega
  simp only [LeafVal.bytes, List.getD, List.getElem?_map, List.getElem?_range hlt, Option.map_some,
    Option.getD_some]
  rw [if_pos (by omega), Nat.add_sub_cancel_left]

theorem LeafVal.bytes_bkt_nextInt (L : Layout) (r ni : Nat) (h1 : L.bmRoot + 8 ≤ L.bmNextInt)
    (h2 : L.bmNextInt + 8 ≤ L.bmSize) (j : Nat) (hj : j < (leBytes ni 8).length) :
    ((LeafVal.bkt r ni).bytes L).getD (L.bmNextInt + j) 0 = (leBytes ni 8).getD j 0 := by
  rw [leBytes_length] at hj
  have hlt : L.bmNextInt + j < L.bmSize := by omega
  simp only [LeafVal.bytes, List.getD, List.getElem?_map, List.getElem?_range hlt, Option.map_some,
    Option.getD_some]
  rw [if_neg (by omega), if_pos (by omega), Nat.add_sub_cancel_left]

theorem Src.HasAt.bkt {L : Layout} {s : Src} {off r ni : Nat} (h : s.HasAt off ((LeafVal.bkt r ni).bytes L))
    (h1 : L.bmRoot + 8 ≤ L.bmNextInt) (h2 : L.bmNextInt + 8 ≤ L.bmSize) :
    s.HasAt (off + L.bmRoot) (leBytes r 8) ∧ s.HasAt (off + L.bmNextInt) (leBytes ni 8) :=
  ⟨h.sub (by rw [LeafVal.bytes_bkt_length, leBytes_length]; omega) (LeafVal.bytes_bkt_root L r ni h1 h2),
    h.sub (by rw [LeafVal.bytes_bkt_length, leBytes_length]; omega) (LeafVal.bytes_bkt_nextInt L r ni h1 h2)⟩

end Jamm
