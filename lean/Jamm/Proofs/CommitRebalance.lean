/-
Layer C: the steps of `rebalance`.  `Forest.mergeChild` has four outcomes on the entry list of the parent
(`MergeOutcome`), analysed once; `Tree.atBranch` carries whatever the edited entry list keeps; `Tree.rbStep` is
`mergeChild` under `atBranch`, or one of the two root steps (`collapse`, `emptyRoot`), done by hand.  A fact about
one step becomes one about `rebalance` by `Tree.rebalance_keeps`; for `WFS` the step lemma is `rbStep_keeps_wfs`.

The separator invariant needs no uniform-depth hypothesis: `Tree.mergeInto` on nodes of different kinds
returns its first argument, which is well-formed for the wider interval anyway.  The contents do need it:
`mergeInto` of a leaf and a branch would drop entries.
-/
import Jamm.Proofs.CommitInvLemmas
open Std

namespace Jamm

section
variable {K E : Type}

theorem mergeInto_leaf_leaf (q p1 p2 : Nat) (es1 es2 : List (K × E)) :
    Tree.mergeInto q (.leaf p1 es1) (.leaf p2 es2) = .leaf (mkPid (nodePage q) true) (es1 ++ es2) := rfl

theorem mergeInto_branch_branch (q p1 p2 : Nat) (k1 k2 : Forest K E) :
    Tree.mergeInto q (.branch p1 k1) (.branch p2 k2) = .branch (mkPid (nodePage q) true) (k1.append k2) := rfl

theorem mergeInto_leaf_branch (q p1 p2 : Nat) (es1 : List (K × E)) (k2 : Forest K E) :
    Tree.mergeInto q (.leaf p1 es1) (.branch p2 k2) = .leaf p1 es1 := rfl

theorem mergeInto_branch_leaf (q p1 p2 : Nat) (k1 : Forest K E) (es2 : List (K × E)) :
    Tree.mergeInto q (.branch p1 k1) (.leaf p2 es2) = .branch p1 k1 := rfl

theorem mergeInto_flatten {d : Nat} (p : Nat) {a b : Tree K E} (ha : UniformT d a) (hb : UniformT d b) :
    (Tree.mergeInto p a b).flatten = a.flatten ++ b.flatten := by
  cases ha with
  | leaf p1 es1 =>
    cases hb with
    | leaf p2 es2 => rw [mergeInto_leaf_leaf]; rfl
  | branch d' p1 k1 h1 =>
    cases hb with
    | branch _ p2 k2 h2 => rw [mergeInto_branch_branch, flatten_branch, flattenF_append]; rfl

theorem mergeInto_uniform {d : Nat} (p : Nat) {a b : Tree K E} (ha : UniformT d a) (hb : UniformT d b) :
    UniformT d (Tree.mergeInto p a b) := by
  cases ha with
  | leaf p1 es1 =>
    cases hb with
    | leaf p2 es2 => rw [mergeInto_leaf_leaf]; exact UniformT.leaf _ _
  | branch d' p1 k1 h1 =>
    cases hb with
    | branch _ p2 k2 h2 =>
      rw [mergeInto_branch_branch]
      exact UniformT.branch _ _ _ (uniformF_append _ _ _ h1 h2)

theorem isEmptyNode_flatten {x : Tree K E} (h : x.isEmptyNode = true) : x.flatten = [] := by
  cases x with
  | leaf p es =>
    simp only [Tree.isEmptyNode, List.isEmpty_iff] at h
    simp [Tree.flatten, h]
  | branch p kids =>
    cases kids with
    | nil => rfl
    | cons k t rest => simp [Tree.isEmptyNode, Forest.length_cons] at h

end

section
variable {K E : Type} [Ord K] [TransOrd K] [LawfulEqOrd K]

theorem mergeInto_wfs {lo hi : Option K} {m : K} {a b : Tree K E} (p : Nat)
    (ha : WFS lo (some m) a) (hb : WFS (some m) hi b) (hlo : inLo lo m) (hhi : inHi hi m) :
    WFS lo hi (Tree.mergeInto p a b) := by
  cases a with
  | leaf p1 es1 =>
    cases b with
    | branch p2 k2 => rw [mergeInto_leaf_branch]; exact ha.weaken (loLe_refl _) (hiLe_of_inHi hhi)
    | leaf p2 es2 =>
      -- sorted: the entries of `a` are below `m`, those of `b` are not
      rw [mergeInto_leaf_leaf]
      obtain ⟨hs1, hb1⟩ := WFS.leaf_iff.1 ha
      obtain ⟨hs2, hb2⟩ := WFS.leaf_iff.1 hb
      refine WFS.leaf_iff.2 ⟨Spec.sorted_append_iff.mpr ⟨hs1, hs2, ?_⟩, ?_⟩
      · intro x hx y hy
        exact klt_of_klt_of_kle (hb1 x hx).2 (hb2 y hy).1
      · intro e he
        rcases List.mem_append.mp he with he | he
        · exact ⟨(hb1 e he).1, inHi_of_klt (hb1 e he).2 hhi⟩
        · exact ⟨inLo_of_kle hlo (hb2 e he).1, (hb2 e he).2⟩
  | branch p1 k1 =>
    cases b with
    | leaf p2 es2 => rw [mergeInto_branch_leaf]; exact ha.weaken (loLe_refl _) (hiLe_of_inHi hhi)
    | branch p2 k2 =>
      -- every key of `a` is below `m` and `b`'s first key `ks` is not, so `a`'s entry list is `WFFS` up to `ks` and
      -- `WFFS.append_iff` splices `b`'s behind it; if either list is empty the other is kept with a widened bound
      rw [mergeInto_branch_branch]
      cases ha with
      | emptyBranch =>
        exact (hb.weaken (loLe_of_inLo hlo) (hiLe_refl _)).repid _
      | branch _ _ _ kx x0 xrest hxlo hxhi hxf =>
        cases hb with
        | emptyBranch =>
          rw [Forest.append_nil]
          exact WFS.branch _ _ _ _ _ _ hxlo (inHi_of_klt hxhi hhi)
            (hxf.weaken (loLe_refl _) (hiLe_of_inHi hhi))
        | branch _ _ _ ks s0 srest hslo hshi hsf =>
          have hks : klt kx ks = true := klt_of_klt_of_kle hxhi hslo
          exact WFS.branch _ _ _ _ _ _ hxlo (inHi_of_klt hxhi hhi)
            ((WFFS.append_iff xrest _ kx x0).2
              ⟨hxf.weaken (loLe_refl _) (show hiLe (some m) (some ks) from hslo), hks, inLo_sepLo (kle_of_klt hks), hshi, hsf⟩)

end

section
variable {K E : Type} [Ord K]

theorem mergeInto_tightM {lo : Option K} {m : K} {a b : Tree K E} (p : Nat)
    (ha : TightMT lo a) (hb : TightMT (some m) b) : TightMT lo (Tree.mergeInto p a b) := by
  cases a with
  | leaf p1 es1 =>
    cases b with
    | branch p2 k2 => rwa [mergeInto_leaf_branch]
    | leaf p2 es2 => rw [mergeInto_leaf_leaf]; exact TightMT.leaf _ _ _
  | branch p1 k1 =>
    cases b with
    | leaf p2 es2 => rwa [mergeInto_branch_leaf]
    | branch p2 k2 =>
      -- the merged node is materialised, so nothing is asked of its own first key; `b` is not a first child
      -- (`some m`), so each of its entries, the first too, is under its own key and may stand behind `a`'s
      rw [mergeInto_branch_branch]
      have hm := nodeMat_mkPid_true (nodePage p)
      have h2 := hb.entries_own
      cases k1 with
      | nil =>
        cases k2 with
        | nil => exact TightMT.emptyBranch _ _
        | cons ks s0 srest =>
          obtain ⟨h0, hr⟩ := List.forall_mem_cons.1 h2
          exact TightMT.branch _ _ _ _ _ hm (tightMF_iff.2 ⟨h0.weaken_sepLo lo, hr⟩)
      | cons kx x0 xrest =>
        obtain ⟨h0, hr⟩ := tightMF_iff.1 ha.kids
        refine TightMT.branch _ _ _ _ _ hm (tightMF_iff.2 ⟨h0, ?_⟩)
        rw [Forest.toList_append]
        exact List.forall_mem_append.2 ⟨hr, h2⟩

end

section
variable {K E : Type} [Ord K] [TransOrd K] [LawfulEqOrd K] [DecidableEq K]

set_option linter.unusedSectionVars false in
theorem mergeChild_nil (i : Nat) : Forest.mergeChild (.nil : Forest K E) i = .nil := rfl

end

section
variable {K E : Type}

/-- the outcomes of `merge_nodes` on the entry list of the parent; two neighbours are merged under the key of the
left one (the right merge at index 0 is the left merge at index 1) -/
inductive MergeOutcome : Forest K E → Forest K E → Prop where
  | same (f : Forest K E) : MergeOutcome f f
  | dropFirst (k : K) (x : Tree K E) (rest : Forest K E) :
      x.isEmptyNode = true → MergeOutcome (.cons k x rest) rest
  | dropLater (pre : Forest K E) (kl : K) (l : Tree K E) (k : K) (x : Tree K E) (post : Forest K E) :
      x.isEmptyNode = true →
      MergeOutcome (pre.append (.cons kl l (.cons k x post))) (pre.append (.cons kl l post))
  | merge (pre : Forest K E) (kl : K) (l : Tree K E) (k : K) (x : Tree K E) (post : Forest K E) (p : Nat) :
      MergeOutcome (pre.append (.cons kl l (.cons k x post)))
        (pre.append (.cons kl (Tree.mergeInto p l x) post))

theorem mergeChild_single_zero (k : K) (x : Tree K E) :
    Forest.mergeChild (.cons k x .nil) 0 = if x.isEmptyNode then .nil else .cons k x .nil := rfl

theorem mergeChild_cons_cons_zero (k k' : K) (x s : Tree K E) (rest : Forest K E) :
    Forest.mergeChild (.cons k x (.cons k' s rest)) 0 =
      if x.isEmptyNode then .cons k' s rest else .cons k (Tree.mergeInto s.pid x s) rest := rfl

theorem mergeChild_cons_cons_one (kl k : K) (l x : Tree K E) (rest : Forest K E) :
    Forest.mergeChild (.cons kl l (.cons k x rest)) 1 =
      if x.isEmptyNode then .cons kl l rest else .cons kl (Tree.mergeInto l.pid l x) rest := rfl

theorem mergeChild_single_succ (k : K) (x : Tree K E) (i : Nat) :
    Forest.mergeChild (.cons k x .nil) (i + 1) = .cons k x .nil := rfl

theorem mergeChild_cons_cons_succ_succ (k k' : K) (x s : Tree K E) (rest : Forest K E) (i : Nat) :
    Forest.mergeChild (.cons k x (.cons k' s rest)) (i + 2) =
      .cons k x (Forest.mergeChild (.cons k' s rest) (i + 1)) := rfl

theorem mergeChild_outcome (f : Forest K E) (i : Nat) : MergeOutcome f (f.mergeChild i) := by
  -- cases 2–7: then / else of the three `if`s of `Forest.mergeChild` in source order; case 8: its last clause
  fun_induction Forest.mergeChild f i with
  | case1 => exact .same _
  | case2 k x h => exact .dropFirst k x .nil h
  | case3 => exact .same _
  | case4 k x k' s rest h => exact .dropFirst k x _ h
  | case5 k x k' s rest h => exact .merge .nil k x k' s rest _
  | case6 kl l k x rest h => exact .dropLater .nil kl l k x rest h
  | case7 kl l k x rest h => exact .merge .nil kl l k x rest _
  | case8 k t rest i _ ih =>
    -- `dropFirst` behind a head is `dropLater`
    generalize rest.mergeChild i = g at ih
    cases ih with
    | same => exact .same _
    | dropFirst k' x r h => exact .dropLater .nil k t k' x g h
    | dropLater pre kl l k' x post h => exact .dropLater (.cons k t pre) kl l k' x post h
    | merge pre kl l k' x post p => exact .merge (.cons k t pre) kl l k' x post p

theorem mergeOutcome_flatten {d : Nat} {f g : Forest K E} (h : MergeOutcome f g) (hu : UniformF d f) :
    Tree.flattenF g = Tree.flattenF f := by
  rw [uniformF_iff] at hu
  cases h with
  | same => rfl
  | dropFirst k x _ hx => simp [Tree.flattenF, isEmptyNode_flatten hx]
  | dropLater pre kl l k x post hx => simp [flattenF_append, Tree.flattenF, isEmptyNode_flatten hx]
  | merge pre kl l k x post p =>
    simp only [Forest.toList_append, Forest.toList_cons, List.forall_mem_append, List.forall_mem_cons] at hu
    obtain ⟨_, hl, hx, _⟩ := hu
    simp [flattenF_append, Tree.flattenF, mergeInto_flatten p hl hx]

theorem mergeOutcome_uniform {d : Nat} {f g : Forest K E} (h : MergeOutcome f g) (hu : UniformF d f) :
    UniformF d g := by
  rw [uniformF_iff] at hu ⊢
  cases h with
  | same => exact hu
  | dropFirst k x _ _ => exact fun e he => hu e (List.mem_cons_of_mem _ he)
  | dropLater pre kl l k x post _ =>
    simp only [Forest.toList_append, Forest.toList_cons, List.forall_mem_append, List.forall_mem_cons] at hu ⊢
    obtain ⟨hpre, hl, _, hpost⟩ := hu
    exact ⟨hpre, hl, hpost⟩
  | merge pre kl l k x post p =>
    simp only [Forest.toList_append, Forest.toList_cons, List.forall_mem_append, List.forall_mem_cons] at hu ⊢
    obtain ⟨hpre, hl, hx, hpost⟩ := hu
    exact ⟨hpre, mergeInto_uniform p hl hx, hpost⟩

end

section
variable {K E : Type} [Ord K]

/-- `step` for every `lo'`: the lower bound of the entry `(kl, l)` depends on whether `pre` is empty -/
theorem tightM_branch_tail_congr {lo : Option K} {p : Nat} {pre : Forest K E} {kl : K} {l l' : Tree K E}
    {tail tail' : Forest K E} (h : TightMT lo (.branch p (pre.append (.cons kl l tail))))
    (step : ∀ lo', TightMF lo' kl l tail → TightMF lo' kl l' tail') {p' : Nat} (hp' : nodeMat p' = true) :
    TightMT lo (.branch p' (pre.append (.cons kl l' tail'))) := by
  cases pre with
  | nil => exact TightMT.branch _ _ _ _ _ hp' (step _ h.kids)
  | cons k0 t0 pre' =>
    obtain ⟨h0, hr⟩ := tightMF_iff.1 h.kids
    rw [Forest.toList_append, List.forall_mem_append, Forest.toList_cons, List.forall_mem_cons] at hr
    refine TightMT.branch _ _ _ _ _ hp' (tightMF_iff.2 ⟨h0, ?_⟩)
    rw [Forest.toList_append, List.forall_mem_append, Forest.toList_cons, List.forall_mem_cons]
    exact ⟨hr.1, tightMF_iff.1 (step _ (tightMF_iff.2 hr.2))⟩

theorem mergeOutcome_tightM {lo : Option K} {p : Nat} {f g : Forest K E} (ho : MergeOutcome f g)
    (h : TightMT lo (.branch p f)) {p' : Nat} (hp' : nodeMat p' = true) : TightMT lo (.branch p' g) := by
  cases ho with
  | same => exact h.remat hp'
  | dropFirst k x _ _ =>
    -- the second entry becomes the first: from its own key to `sepLo lo` of it
    cases g with
    | nil => exact TightMT.emptyBranch _ _
    | cons k' s rest' =>
      obtain ⟨hs, hr⟩ := List.forall_mem_cons.1 (tightMF_iff.1 h.kids).2
      exact TightMT.branch _ _ _ _ _ hp' (tightMF_iff.2 ⟨hs.weaken_sepLo lo, hr⟩)
  | dropLater pre kl l k x post _ =>
    refine tightM_branch_tail_congr h (fun _ hf => ?_) hp'
    obtain ⟨hl, hr⟩ := tightMF_iff.1 hf
    exact tightMF_iff.2 ⟨hl, (List.forall_mem_cons.1 hr).2⟩
  | merge pre kl l k x post q =>
    refine tightM_branch_tail_congr h (fun _ hf => ?_) hp'
    obtain ⟨hl, hr⟩ := tightMF_iff.1 hf
    obtain ⟨hx, hr⟩ := List.forall_mem_cons.1 hr
    exact tightMF_iff.2 ⟨mergeInto_tightM q hl hx, hr⟩

end

section
variable {K E : Type} [Ord K] [TransOrd K]

/-- `hi'` is the next key, or `hi` when there is none -/
theorem wffs_absorb {lo hi : Option K} {k k' : K} {t x t₂ : Tree K E} {rest : Forest K E}
    (h : WFFS lo hi k t (.cons k' x rest))
    (new : ∀ hi', inLo lo k' → inHi hi' k' → WFS lo (some k') t → WFS (some k') hi' x → WFS lo hi' t₂) :
    WFFS lo hi k t₂ rest := by
  cases h with
  | cons _ _ _ _ _ _ _ hk hlo' hhi' ht hx =>
    cases hx with
    | last _ _ _ _ hxw => exact WFFS.last _ _ _ _ (new hi hlo' hhi' ht hxw)
    | cons _ _ _ _ k'' t'' rest'' hk' hlo'' hhi'' hxw hr =>
      exact WFFS.cons _ _ _ _ _ _ _ (klt_trans hk hk') (inLo_of_kle hlo' hlo'') hhi''
        (new (some k'') hlo' hk' ht hxw) hr

theorem wfs_branch_tail_congr {lo hi : Option K} {p : Nat} {pre : Forest K E} {kl : K} {l l' : Tree K E}
    {tail tail' : Forest K E} (h : WFS lo hi (.branch p (pre.append (.cons kl l tail))))
    (step : ∀ lo', WFFS lo' hi kl l tail → WFFS lo' hi kl l' tail') (p' : Nat) :
    WFS lo hi (.branch p' (pre.append (.cons kl l' tail'))) := by
  cases pre with
  | nil =>
    obtain ⟨hlo, hhi, hf⟩ := WFS.branch_iff.1 h
    exact WFS.branch_iff.2 ⟨hlo, hhi, step _ hf⟩
  | cons k0 t0 pre' =>
    obtain ⟨hlo, hhi, hf⟩ := WFS.branch_iff.1 h
    obtain ⟨A, hk, hl, hh, B⟩ := (WFFS.append_iff pre' _ k0 t0).1 hf
    exact WFS.branch_iff.2 ⟨hlo, hhi, (WFFS.append_iff pre' _ k0 t0).2 ⟨A, hk, hl, hh, step _ B⟩⟩

variable [LawfulEqOrd K]

/-- the result may be `.branch p' .nil` (`WFS.emptyBranch`) -/
theorem mergeOutcome_wfs {lo hi : Option K} {p : Nat} {f g : Forest K E} (ho : MergeOutcome f g)
    (h : WFS lo hi (.branch p f)) (p' : Nat) : WFS lo hi (.branch p' g) := by
  cases ho with
  | same => exact h.repid p'
  | dropFirst k x _ _ =>
    -- the second entry becomes the first: its key takes over as the bound of everything below the branch
    obtain ⟨hlo, -, hf⟩ := WFS.branch_iff.1 h
    cases g with
    | nil => exact .emptyBranch _ _ _
    | cons k' s r =>
      obtain ⟨hk, -, hhi', -, hs⟩ := WFFS.cons_iff.1 hf
      exact WFS.branch_iff.2
        ⟨inLo_of_kle hlo (kle_of_klt hk), hhi', hs.weaken (loLe_sepLo_some lo _) (hiLe_refl _)⟩
  | dropLater pre kl l k x post _ =>
    -- the left neighbour's interval grows
    exact wfs_branch_tail_congr h
      (fun _ hf => wffs_absorb hf fun _ _ hh hl _ => hl.weaken (loLe_refl _) (hiLe_of_inHi hh)) p'
  | merge pre kl l k x post q =>
    exact wfs_branch_tail_congr h (fun _ hf => wffs_absorb hf fun _ hlo hh hl hx => mergeInto_wfs q hl hx hlo hh) p'

end

section
variable {K E : Type}

/-- by hand and not by `atBranch_lift`: the contents of the edited tree need the depth of the OLD tree only (`hf`
does not say that `f` keeps the depth), and a child congruence speaks of one tree -/
theorem atBranch_flatten (page : Nat) (f : Forest K E → Forest K E)
    (hf : ∀ d g, UniformF d g → Tree.flattenF (f g) = Tree.flattenF g)
    (t : Tree K E) : ∀ (d : Nat), UniformT d t → (Tree.atBranch page f t).flatten = t.flatten := by
  induction t using Tree.ind_toList with
  | leaf p es => exact fun _ _ => rfl
  | branch p kids ih =>
    intro d hu
    obtain ⟨d', rfl, hk⟩ := UniformT.branch_iff.1 hu
    simp only [Tree.atBranch]
    split
    · rfl
    · split
      · exact hf d' kids hk
      · exact flattenF_rel₂ (Forest.Rel₂.atBranch page f kids fun e he => ih e he d') (uniformF_iff.1 hk)

theorem atBranchF_flatten (page : Nat) (f : Forest K E → Forest K E)
    (hf : ∀ d g, UniformF d g → Tree.flattenF (f g) = Tree.flattenF g)
    (g : Forest K E) (d : Nat) (hu : UniformF d g) :
    Tree.flattenF (Forest.atBranch page f g) = Tree.flattenF g :=
  flattenF_rel₂ (Forest.Rel₂.atBranch page f g fun e _ => atBranch_flatten page f hf e.2 d) (uniformF_iff.1 hu)

theorem atBranch_uniform (page : Nat) (f : Forest K E → Forest K E)
    (hf : ∀ d g, UniformF d g → UniformF d (f g))
    (t : Tree K E) (d : Nat) (hu : UniformT d t) : UniformT d (Tree.atBranch page f t) :=
  atBranch_lift (uniform_childCongr _) page f
    (fun _ _ _ _ h => by
      obtain ⟨d', rfl, hk⟩ := UniformT.branch_iff.1 h
      exact .branch _ _ _ (hf d' _ hk))
    t d hu

theorem atBranchF_uniform (page : Nat) (f : Forest K E → Forest K E)
    (hf : ∀ d g, UniformF d g → UniformF d (f g))
    (g : Forest K E) (d : Nat) (hu : UniformF d g) :
    UniformF d (Forest.atBranch page f g) :=
  (Forest.Rel₂.atBranch page f g fun e _ => atBranch_uniform page f hf e.2 d).uniformF (fun _ _ h => h) hu

end

section
variable {K E : Type}

theorem rbStep_collapse_cases (t : Tree K E) :
    t.rbStep .collapse = t ∨ ∃ p k c, t = .branch p (.cons k c .nil) ∧ t.rbStep .collapse = c := by
  simp only [Tree.rbStep]
  split
  · exact .inr ⟨_, _, _, rfl, rfl⟩
  · exact .inl rfl

theorem rbStep_emptyRoot_cases (t : Tree K E) :
    t.rbStep .emptyRoot = t ∨ ∃ p, t = .branch p .nil ∧ t.rbStep .emptyRoot = .leaf p [] := by
  simp only [Tree.rbStep]
  split
  · exact .inr ⟨_, rfl, rfl⟩
  · exact .inl rfl

theorem Tree.rebalance_keeps {P : Tree K E → Prop} (h : ∀ t s, P t → P (t.rbStep s)) (steps : List RbStep)
    (t : Tree K E) : P t → P (t.rebalance steps) :=
  foldl_keeps h steps t

theorem rbStep_flatten {t : Tree K E} {d : Nat} (hu : UniformT d t) (s : RbStep) :
    (t.rbStep s).flatten = t.flatten := by
  cases s with
  | merge parent i =>
    exact atBranch_flatten parent _ (fun _ g h => mergeOutcome_flatten (mergeChild_outcome g i) h) t d hu
  | collapse =>
    rcases rbStep_collapse_cases t with e | ⟨p, k, c, rfl, e⟩
    · rw [e]
    · rw [e, flatten_branch, flattenF_cons, flattenF_nil, List.append_nil]
  | emptyRoot =>
    rcases rbStep_emptyRoot_cases t with e | ⟨p, rfl, e⟩
    · rw [e]
    · rw [e]; rfl

/-- the depth is not kept: `collapse` takes one level off, `emptyRoot` gives 0 -/
theorem rbStep_uniform {t : Tree K E} {d : Nat} (hu : UniformT d t) (s : RbStep) :
    ∃ d', UniformT d' (t.rbStep s) := by
  cases s with
  | merge parent i =>
    exact ⟨d, atBranch_uniform parent _ (fun _ g h => mergeOutcome_uniform (mergeChild_outcome g i) h) t d hu⟩
  | collapse =>
    rcases rbStep_collapse_cases t with e | ⟨p, k, c, rfl, e⟩
    · exact ⟨d, e.symm ▸ hu⟩
    · obtain ⟨d', rfl, hk⟩ := UniformT.branch_iff.1 hu
      exact ⟨d', e.symm ▸ uniformF_iff.1 hk (k, c) List.mem_cons_self⟩
  | emptyRoot =>
    rcases rbStep_emptyRoot_cases t with e | ⟨p, rfl, e⟩
    · exact ⟨d, e.symm ▸ hu⟩
    · exact ⟨0, e.symm ▸ UniformT.leaf _ _⟩

end

section
variable {K E : Type} [Ord K]

theorem rbStep_tightM {t : Tree K E} (h : TightMT none t) (s : RbStep) : TightMT none (t.rbStep s) := by
  cases s with
  | merge parent i =>
    exact atBranch_lift tightM_childCongr.for_atBranch parent _
      (fun _ p _ hm hb => mergeOutcome_tightM (mergeChild_outcome _ i) hb hm) t none h
  | collapse =>
    rcases rbStep_collapse_cases t with e | ⟨p, k, c, rfl, e⟩
    · rwa [e]
    · -- `sepLo none k` is `none`
      rw [e]
      exact (tightMF_iff.1 h.kids).1
  | emptyRoot =>
    rcases rbStep_emptyRoot_cases t with e | ⟨p, rfl, e⟩
    · rwa [e]
    · rw [e]
      exact TightMT.leaf _ _ _

end

section
variable {K E : Type} [Ord K] [TransOrd K] [LawfulEqOrd K]

theorem rbStep_keeps_wfs {t : Tree K E} (h : WFS none none t) (s : RbStep) : WFS none none (t.rbStep s) := by
  cases s with
  | merge parent i =>
    exact atBranch_lift (wfs_childCongr _) parent _
      (fun _ p _ _ hb => mergeOutcome_wfs (mergeChild_outcome _ i) hb p) t (none, none) h
  | collapse =>
    rcases rbStep_collapse_cases t with e | ⟨p, k, c, rfl, e⟩
    · rwa [e]
    · rw [e]
      -- the single child has the bounds of the root: `sepLo none k` is `none`
      exact h.only_child
  | emptyRoot =>
    rcases rbStep_emptyRoot_cases t with e | ⟨p, rfl, e⟩
    · rwa [e]
    · rw [e]
      exact wfs_leaf_nil _ _ _

end

section
variable {K E : Type} [Ord K] [TransOrd K] [LawfulEqOrd K] [DecidableEq K]

set_option linter.unusedVariables false in
set_option linter.unusedSectionVars false in
/-- `d`, `hu` are not used: `rbStep_keeps_wfs` -/
theorem rbStep_wfs (t : Tree K E) (h : WFS none none t) (d : Nat) (hu : UniformT d t) (s : RbStep) :
    WFS none none (t.rbStep s) :=
  rbStep_keeps_wfs h s

end
end Jamm
