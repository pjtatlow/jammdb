/-
Layer T/API ← Layer C: `commitWith` instantiated with the commit model, and whole histories of transactions.
With the tree invariant (`TreeInv`: separators, tightness, uniform depth) on every bucket, the commit of the
whole database — every bucket rewritten by `commitTree`, for any reported `rebalance` steps and any touched
keys — is invisible in the specification and keeps the invariant.  `runTx_refines` is the step of a history; its
premise `RebalanceComplete` (the replay of `rebalance` steps and the touches leave no childless branch in any bucket)
is evaluated by the run on every real replay.  `AllNeb`: `nebT` (no childless branch) of every tree.  `applyOp_inv` /
`applyOp_neb` in the proofs are the tree's (`Tree.applyOp`, CommitEdits), `applyOps_all` the database's.
-/
import Jamm.Model.TreeDBCommit
import Jamm.Proofs.CommitEdits
import Jamm.Proofs.CommitCompose
import Jamm.Proofs.TreeDBLemmas
open Std

namespace Jamm.TDB
open Jamm.Spec (Item Path)

def AllNeb {K V : Type} (db : DB K V) : Prop := ∀ e ∈ db, nebT e.2.tree = true

theorem allNeb_empty {K V : Type} : AllNeb ([([], { nextInt := 0, tree := newTree })] : DB K V) :=
  List.forall_mem_singleton.mpr rfl

section
variable {K V : Type} [Ord K]

def AllInv (db : DB K V) : Prop := ∀ e ∈ db, TreeInv e.2.tree

theorem newTree_inv : TreeInv (newTree : Tree K (Item V)) :=
  ⟨wfs_leaf_nil none none 0, TightT.leaf none 0 [], 0, UniformT.leaf 0 []⟩

/-- the database a file starts as -/
theorem allInv_empty : AllInv ([([], { nextInt := 0, tree := newTree })] : DB K V) :=
  List.forall_mem_singleton.mpr newTree_inv

variable [TransOrd K]

theorem allWF_of_allInv_of_allNeb (db : DB K V) (h : AllInv db) (hne : AllNeb db) : AllWF db := by
  intro e he
  exact wfs_wf none none _ (h e he).sep (hne e he)

variable [LawfulEqOrd K] [DecidableEq K]

theorem allInv_applyOps (db : DB K V) (h : AllInv db) (ops : List (Op K V)) : AllInv (ops.foldl applyOp db) :=
  applyOps_all (fun t k i ht => applyOp_inv t ht (.put k i)) (fun t k ht => applyOp_inv t ht (.del k))
    newTree_inv h ops

end

theorem allNeb_applyOps (db : DB Bytes Bytes) (h : AllNeb db) (ops : List (Op Bytes Bytes)) :
    AllNeb (ops.foldl applyOp db) :=
  applyOps_all (fun t k i => applyOp_neb t (.put k i)) (fun t k => applyOp_neb t (.del k)) rfl h ops

section
variable {p : Params} {pagesize hdr leafHdr branchHdr bmSize : Nat}
  {steps : Path Bytes → List RbStep} {touched : Path Bytes → List Bytes}

theorem commitDB_all {P : Tree Bytes (Item Bytes) → Prop} {db : DB Bytes Bytes}
    (h : ∀ e ∈ db, P (commitTree p pagesize hdr leafHdr branchHdr (itemSize bmSize) (steps e.1) (touched e.1) e.2.tree)) :
    ∀ e ∈ commitDB p pagesize hdr leafHdr branchHdr bmSize steps touched db, P e.2.tree :=
  commitWith_all _ h

theorem commitDB_invisible (db : DB Bytes Bytes) (h : AllInv db) :
    abs (commitDB p pagesize hdr leafHdr branchHdr bmSize steps touched db) = abs db :=
  commitWith_invisible _ db fun e he => (h e he).commitTree_flatten ..

theorem commitDB_inv (hp : p.Valid) (h2 : 2 ≤ p.minKeysPerNode) (db : DB Bytes Bytes) (h : AllInv db) :
    AllInv (commitDB p pagesize hdr leafHdr branchHdr bmSize steps touched db) :=
  commitDB_all fun e he => commitTree_inv (hp := hp) (h2 := h2) (h := h e he) ..

end

/-- a transaction: its write operations, and per bucket the rebalance steps and touched header keys of its commit -/
structure TxRec where
  ops : List (Op Bytes Bytes)
  steps : Path Bytes → List RbStep
  touched : Path Bytes → List Bytes

-- `runTx` and `HistoryComplete` are functions of the commit's parameters (`RebalanceComplete` mentions none); the two
-- theorems of this section take them explicitly as well, since none of their hypotheses mentions `pagesize` … `bmSize`
section
variable (p : Params) (pagesize hdr leafHdr branchHdr bmSize : Nat)

def runTx (db : DB Bytes Bytes) (tx : TxRec) : DB Bytes Bytes :=
  commitDB p pagesize hdr leafHdr branchHdr bmSize tx.steps tx.touched (tx.ops.foldl applyOp db)

def RebalanceComplete (db : DB Bytes Bytes) (tx : TxRec) : Prop :=
  ∀ e ∈ tx.ops.foldl applyOp db,
    nebT ((e.2.tree.rebalance (tx.steps e.1)).touchAll (tx.touched e.1)) = true

def HistoryComplete : DB Bytes Bytes → List TxRec → Prop
  | _, [] => True
  | db, tx :: rest =>
    RebalanceComplete db tx ∧ HistoryComplete (runTx p pagesize hdr leafHdr branchHdr bmSize db tx) rest

variable (steps : Path Bytes → List RbStep) (touched : Path Bytes → List Bytes)

/-- `AllWF` is assumed and not concluded: it needs "no childless branch" after the replay, the gap that
`runTx_refines` closes -/
theorem tx_commit_refines (hp : p.Valid) (h2 : 2 ≤ p.minKeysPerNode) (db : DB Bytes Bytes) (h : AllInv db)
    (hw : AllWF db) (ops : List (Op Bytes Bytes)) :
    abs (commitDB p pagesize hdr leafHdr branchHdr bmSize steps touched (ops.foldl applyOp db)) =
      ops.foldl Spec.applyTOp (abs db) ∧
    AllInv (commitDB p pagesize hdr leafHdr branchHdr bmSize steps touched (ops.foldl applyOp db)) := by
  have hi := allInv_applyOps db h ops
  refine ⟨?_, commitDB_inv hp h2 _ hi⟩
  rw [commitDB_invisible _ hi]
  exact (applyOps_refines db hw ops).1

/-- The invariant comes back by `tx_commit_refines`; "no childless branch" comes back because `spill` keeps it once
the replayed steps have left it true (`commitTree_neb`) -/
theorem runTx_refines (hp : p.Valid) (h2 : 2 ≤ p.minKeysPerNode) (db : DB Bytes Bytes)
    (hi : AllInv db) (hn : AllNeb db) (tx : TxRec) (hc : RebalanceComplete db tx) :
    abs (runTx p pagesize hdr leafHdr branchHdr bmSize db tx) = tx.ops.foldl Spec.applyTOp (abs db) ∧
    AllInv (runTx p pagesize hdr leafHdr branchHdr bmSize db tx) ∧
    AllNeb (runTx p pagesize hdr leafHdr branchHdr bmSize db tx) := by
  obtain ⟨ha, hinv⟩ := tx_commit_refines p pagesize hdr leafHdr branchHdr bmSize tx.steps tx.touched hp h2 db hi
    (allWF_of_allInv_of_allNeb db hi hn) tx.ops
  have hneb : AllNeb (runTx p pagesize hdr leafHdr branchHdr bmSize db tx) :=
    commitDB_all (P := fun t => nebT t = true) fun e he => commitTree_neb (hp := hp) (h := hc e he) ..
  exact ⟨ha, hinv, hneb⟩

end

section
variable {p : Params} {pagesize hdr leafHdr branchHdr bmSize : Nat}

theorem runTxs_refines (hp : p.Valid) (h2 : 2 ≤ p.minKeysPerNode) {db : DB Bytes Bytes} (hi : AllInv db)
    (hn : AllNeb db) {txs : List TxRec} (hc : HistoryComplete p pagesize hdr leafHdr branchHdr bmSize db txs) :
    abs (txs.foldl (runTx p pagesize hdr leafHdr branchHdr bmSize) db) =
      (txs.flatMap (·.ops)).foldl Spec.applyTOp (abs db) ∧
    AllInv (txs.foldl (runTx p pagesize hdr leafHdr branchHdr bmSize) db) ∧
    AllNeb (txs.foldl (runTx p pagesize hdr leafHdr branchHdr bmSize) db) := by
  induction txs generalizing db with
  | nil => exact ⟨rfl, hi, hn⟩
  | cons tx rest ih =>
    obtain ⟨hc, hrest⟩ := hc
    obtain ⟨ha, hi', hn'⟩ := runTx_refines p pagesize hdr leafHdr branchHdr bmSize hp h2 db hi hn tx hc
    rw [List.foldl_cons, List.flatMap_cons, List.foldl_append, ← ha]
    exact ih hi' hn' hrest

end
end Jamm.TDB
