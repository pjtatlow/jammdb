/-
The walk of `implCheckLoop`, abstractly: `Owns pg fl stack owned` says that the walk started with `stack`
visits (and removes from the set of unseen pages) exactly the pages `owned`, each once, and meets no
error on the way provided they are all still unseen (`implCheckLoop_owns`).  The bookkeeping is by permutation, because the walk pops the
last child first while the checker lists the first first.
-/
import Jamm.Model.ImplCheck

namespace Jamm

theorem removeEach_of_perm : ∀ (ps : List Nat) {unused r : List Nat}, unused.Perm (ps ++ r) →
    ∃ res, removeEach ps unused = some res ∧ res.Perm r
  | [], unused, _, h => ⟨unused, rfl, h⟩
  | p :: ps, unused, r, h => by
    have hp : unused.contains p = true :=
      List.contains_iff_mem.mpr (h.mem_iff.mpr (List.mem_cons_self ..))
    have h' : (unused.erase p).Perm (ps ++ r) := by
      have := h.erase p
      rwa [List.cons_append, List.erase_cons_head] at this
    obtain ⟨res, h1, h2⟩ := removeEach_of_perm ps h'
    exact ⟨res, by rw [removeEach, if_pos hp, h1], h2⟩

/-- a page with its overflow pages, in the order the walk removes them -/
def pageRun (pid ov : Nat) : List Nat := pid :: (List.range ov).map (· + pid + 1)

theorem pageRun_length (pid ov : Nat) : (pageRun pid ov).length = ov + 1 := by
  simp [pageRun]

theorem pageRun_eq_map (pid ov : Nat) : pageRun pid ov = (List.range (ov + 1)).map (· + pid) := by
  rw [pageRun, List.range_succ_eq_map, List.map_cons, List.map_map, Nat.zero_add]
  congr 1
  apply List.map_congr_left
  intro a _
  show a + pid + 1 = a + 1 + pid
  omega

/-- `fl` is the header's free-list page, the only id at which a free-list page is accepted.  The head of `stack` is its
top. -/
inductive Owns (pg : PageStore) (fl : Nat) : List Nat → List Nat → Prop where
  | nil : Owns pg fl [] []
  | branch (pid : Nat) (p : LPage) (es : List (Bytes × Nat)) (stack o : List Nat) :
      pg pid = some p → p.body = .branch es → strictlyAscending (es.map (·.1)) = true →
      Owns pg fl ((es.map (·.2)).reverse ++ stack) o → Owns pg fl (pid :: stack) (pageRun pid p.overflow ++ o)
  | leaf (pid : Nat) (p : LPage) (es : List (Bytes × LeafVal)) (stack o : List Nat) :
      pg pid = some p → p.body = .leaf es → strictlyAscending (es.map (·.1)) = true →
      Owns pg fl (((subBuckets es).map (·.2.1)).reverse ++ stack) o →
      Owns pg fl (pid :: stack) (pageRun pid p.overflow ++ o)
  | freelist (p : LPage) (ids : List Nat) (stack o : List Nat) :
      pg fl = some p → p.body = .freelist ids → Owns pg fl stack o →
      Owns pg fl (fl :: stack) (pageRun fl p.overflow ++ (ids ++ o))
  | perm (stack o o' : List Nat) : Owns pg fl stack o → o.Perm o' → Owns pg fl stack o'

theorem Owns.append {pg : PageStore} {fl : Nat} {a oa : List Nat} (ha : Owns pg fl a oa) :
    ∀ {b ob : List Nat}, Owns pg fl b ob → Owns pg fl (a ++ b) (oa ++ ob) := by
  intro b ob hb
  induction ha with
  | nil => exact hb
  | branch pid p es stack o h1 h2 h3 _ ih =>
    rw [List.append_assoc] at ih
    rw [List.cons_append, List.append_assoc]
    exact Owns.branch pid p es _ _ h1 h2 h3 ih
  | leaf pid p es stack o h1 h2 h3 _ ih =>
    rw [List.append_assoc] at ih
    rw [List.cons_append, List.append_assoc]
    exact Owns.leaf pid p es _ _ h1 h2 h3 ih
  | freelist p ids stack o h1 h2 _ ih =>
    rw [List.cons_append, List.append_assoc, List.append_assoc]
    exact Owns.freelist p ids _ _ h1 h2 ih
  | perm stack o o' _ hp ih => exact Owns.perm _ _ _ ih (hp.append_right ob)

/-- popping `pid` while its run is still unseen: the two tests of the loop are one `removeEach` of the run -/
theorem popRun_of_perm {pid ov : Nat} {unused r : List Nat} (h : unused.Perm (pageRun pid ov ++ r)) :
    (!unused.contains pid) = false ∧
      ∃ u', removeEach ((List.range ov).map (· + pid + 1)) (unused.erase pid) = some u' ∧ u'.Perm r := by
  obtain ⟨u', hr, hu'⟩ := removeEach_of_perm _ h
  rw [pageRun, removeEach] at hr
  split at hr
  next hc => exact ⟨by rw [hc]; rfl, u', hr, hu'⟩
  next => cases hr

/-- fuel counts pages, not steps: every constructor but `nil` pops a page; `<` because `nil` needs one unit for the final
test of the empty stack -/
theorem implCheckLoop_owns {pg : PageStore} {fl : Nat} {stack o : List Nat} (h : Owns pg fl stack o) :
    ∀ (fuel : Nat) {unused r : List Nat}, o.length < fuel → unused.Perm (o ++ r) →
      ∃ res, implCheckLoop pg fl fuel stack unused = .ok res ∧ res.Perm r := by
  induction h with
  | nil =>
    intro fuel unused r hf hu
    cases fuel with
    | zero => omega
    | succ f => exact ⟨unused, rfl, hu⟩
  | branch pid p es stack o h1 h2 h3 _ ih | leaf pid p es stack o h1 h2 h3 _ ih =>
    intro fuel unused r hf hu
    cases fuel with
    | zero => omega
    | succ f =>
      rw [List.append_assoc] at hu
      obtain ⟨hc, u', hr, hu'⟩ := popRun_of_perm hu
      rw [List.length_append, pageRun_length] at hf
      obtain ⟨res, r1, r2⟩ := ih f (by omega) hu'
      refine ⟨res, ?_, r2⟩
      simp only [implCheckLoop, hc, h1, hr, h2, h3]
      exact r1
  | freelist p ids stack o h1 h2 _ ih =>
    intro fuel unused r hf hu
    cases fuel with
    | zero => omega
    | succ f =>
      rw [List.append_assoc] at hu
      obtain ⟨hc, u', hr, hu'⟩ := popRun_of_perm hu
      rw [List.append_assoc] at hu'
      obtain ⟨u'', hr2, hu''⟩ := removeEach_of_perm _ hu'
      rw [List.length_append, List.length_append, pageRun_length] at hf
      obtain ⟨res, r1, r2⟩ := ih f (by omega) hu''
      refine ⟨res, ?_, r2⟩
      simp only [implCheckLoop, hc, h1, hr, h2, hr2, bne_self_eq_false]
      exact r1
  | perm stack o o' _ hp ih =>
    intro fuel unused r hf hu
    exact ih fuel (hp.length_eq ▸ hf) (hu.trans (hp.symm.append_right r))

end Jamm
