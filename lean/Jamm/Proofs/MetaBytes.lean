/-
The header checksum at the level of FILE bytes.

`readMeta` decodes every field little-endian from its layout offset and `metaHashInput` hashes the big-endian image of
the decoded number on the same width: exactly the file bytes, reversed (`Src.beBytes_le`).  Hence the hash input of
the record read from a header page is the file read at a fixed list of offsets (`hashedOffsets`), for ANY layout and
hash order.  When those offsets, the page-type byte and the stored checksum are pairwise distinct (`(checkedOffsets L
order).Nodup`, decided for the generated layout), changing one file byte at a checked offset changes exactly one
hashed byte, or only the stored checksum, or the page-type byte; each is detected.
-/
import Jamm.Model.MetaBytes
import Jamm.Proofs.HashLemmas
import Jamm.Proofs.EncodeBasic
import Jamm.Proofs.ListLemmas

namespace Jamm

theorem readMeta_field (L : Layout) (s : Src) (base : Nat) (f : MetaField) :
    (readMeta L s base).field f = s.le (base + L.pgPtr + fieldOff L f) (fieldSz L f) := by
  cases f <;> simp only [readMeta, MetaRec.field, fieldOff, fieldSz, Nat.add_assoc]

theorem readMeta_hash (L : Layout) (s : Src) (base : Nat) :
    (readMeta L s base).hash = s.le (base + L.pgPtr + L.mHash) 8 := rfl

theorem readMeta_hash_eq_iff (L : Layout) (s s' : Src) (base : Nat) :
    (readMeta L s' base).hash = (readMeta L s base).hash ↔
      ∀ o ∈ checksumOffsets L, s'.get (base + o) = s.get (base + o) := by
  rw [readMeta_hash, readMeta_hash, Nat.add_assoc]
  exact Src.le_eq_iff s s' base _ 8

theorem fieldBytes_eq (L : Layout) (m : MetaRec) (f : MetaField) :
    fieldBytes L m f = beBytes (m.field f) (fieldSz L f) := by
  cases f <;> rfl

theorem MetaRec.ext_fields (m m' : MetaRec) (h : ∀ f, m'.field f = m.field f) (hh : m'.hash = m.hash) : m' = m := by
  have h1 := h .metaPage; have h2 := h .magic; have h3 := h .version; have h4 := h .pagesize
  have h5 := h .rootPage; have h6 := h .nextInt; have h7 := h .numPages; have h8 := h .freelistPage
  have h9 := h .txId
  cases m; cases m'
  simp only [MetaRec.field] at h1 h2 h3 h4 h5 h6 h7 h8 h9
  simp only at hh
  simp [*]

theorem readMeta_congr (L : Layout) {s s' : Src} {base : Nat}
    (hf : ∀ f, ∀ o ∈ fieldOffsets L f, s'.get (base + o) = s.get (base + o))
    (hc : ∀ o ∈ checksumOffsets L, s'.get (base + o) = s.get (base + o)) :
    readMeta L s' base = readMeta L s base := by
  refine MetaRec.ext_fields _ _ (fun f => ?_) ((readMeta_hash_eq_iff L s s' base).2 hc)
  rw [readMeta_field, readMeta_field, Nat.add_assoc]
  exact (Src.le_eq_iff s s' base _ _).2 (hf f)

/-- offsets relative to the start of the header page, in hashing order: each field from its most significant (= last)
byte down -/
def hashedOffsets (L : Layout) (order : List MetaField) : List Nat :=
  order.flatMap (fun f => (fieldOffsets L f).reverse)

theorem metaHashInput_readMeta (L : Layout) (order : List MetaField) (s : Src) (base : Nat) :
    metaHashInput L order (readMeta L s base) = (hashedOffsets L order).map (fun i => s.get (base + i)) := by
  unfold metaHashInput hashedOffsets
  rw [List.map_flatMap]
  congr 1
  funext f
  rw [fieldBytes_eq, readMeta_field, Src.beBytes_le, Nat.add_assoc, Src.bytes_eq_map_range, List.map_reverse]
  rfl

theorem hashedOffsets_perm (L : Layout) (order : List MetaField) :
    (hashedOffsets L order).Perm (order.flatMap (fieldOffsets L)) := by
  induction order with
  | nil => exact .refl _
  | cons f order ih => exact (List.reverse_perm _).append ih

theorem checkedOffsets_perm (L : Layout) (order : List MetaField) :
    (checkedOffsets L order).Perm (L.pgType :: (hashedOffsets L order ++ checksumOffsets L)) :=
  ((hashedOffsets_perm L order).symm.append_right _).cons _

theorem mem_checkedOffsets {L : Layout} {order : List MetaField} {f : MetaField} (hf : f ∈ order) {o : Nat}
    (ho : o ∈ fieldOffsets L f) : o ∈ checkedOffsets L order :=
  List.mem_cons_of_mem _ (List.mem_append_left _ (List.mem_flatMap.2 ⟨f, hf, ho⟩))

theorem checksum_mem_checkedOffsets {L : Layout} {order : List MetaField} {o : Nat} (ho : o ∈ checksumOffsets L) :
    o ∈ checkedOffsets L order :=
  List.mem_cons_of_mem _ (List.mem_append_right _ ho)

theorem slotValid_eq (L : Layout) (order : List MetaField) (s : Src) (pagesize slot : Nat) :
    slotValid L order s pagesize slot =
      if slot * pagesize + L.pgPtr + L.metaSize > s.size then none
      else if (s.get (slot * pagesize + L.pgType)).toNat ≠ L.typeMeta then none
      else if metaValid L order (readMeta L s (slot * pagesize)) then some (readMeta L s (slot * pagesize)) else none := rfl

theorem slotValid_some (L : Layout) (order : List MetaField) (s : Src) (pagesize slot : Nat) (m : MetaRec)
    (h : slotValid L order s pagesize slot = some m) :
    ¬ slot * pagesize + L.pgPtr + L.metaSize > s.size ∧ (s.get (slot * pagesize + L.pgType)).toNat = L.typeMeta ∧
    m = readMeta L s (slot * pagesize) ∧ metaValid L order (readMeta L s (slot * pagesize)) = true := by
  rw [slotValid_eq] at h
  split at h
  · simp at h
  · split at h
    · simp at h
    · split at h
      · rename_i h1 h2 h3
        simp at h
        exact ⟨h1, by simpa using h2, h.symm, h3⟩
      · simp at h

theorem slotValid_none_of_type (L : Layout) (order : List MetaField) (s : Src) (ps slot : Nat)
    (h : (s.get (slot * ps + L.pgType)).toNat ≠ L.typeMeta) : slotValid L order s ps slot = none := by
  rw [slotValid_eq, if_pos h, ite_self]

theorem selectSlots_some_none (a : MetaRec) (ps : Nat) (hp : a.pagesize = ps) :
    selectSlots (some a) none ps = .ok (some a) := by
  simp [selectSlots, hp]

theorem selectSlots_none_some (b : MetaRec) (ps : Nat) (hp : b.pagesize = ps) :
    selectSlots none (some b) ps = .ok (some b) := by
  simp [selectSlots, hp]

theorem selectSlots_some_some (a b : MetaRec) (ps : Nat) (ha : a.pagesize = ps) (hb : b.pagesize = ps) :
    selectSlots (some a) (some b) ps = .ok (some (if a.txId > b.txId then a else b)) := by
  simp only [selectSlots, ha, hb]
  by_cases h : a.txId > b.txId <;> simp [h]

theorem one_damaged_file_byte_invalidates (L : Layout) (order : List MetaField)
    (hnd : (checkedOffsets L order).Nodup)
    (s s' : Src) (pagesize slot : Nat) (m : MetaRec) (off : Nat)
    (hv : slotValid L order s pagesize slot = some m)
    (hsz : s'.size = s.size)
    (hsame : ∀ i, i ≠ slot * pagesize + off → s'.get i = s.get i)
    (hdiff : s'.get (slot * pagesize + off) ≠ s.get (slot * pagesize + off))
    (hin : off ∈ checkedOffsets L order) :
    slotValid L order s' pagesize slot = none := by
  obtain ⟨hfit, hty, -, hval⟩ := slotValid_some L order s pagesize slot m hv
  rw [slotValid_eq, hsz, if_neg hfit]
  generalize slot * pagesize = base at *
  have P := checkedOffsets_perm L order
  rw [P.nodup_iff, List.nodup_cons, List.nodup_append] at hnd
  obtain ⟨hty_notin, hndH, -, hdisj⟩ := hnd
  have hout : ∀ l : List Nat, off ∉ l → ∀ o ∈ l, s'.get (base + o) = s.get (base + o) :=
    fun l hl o ho => hsame _ fun e => hl (Nat.add_left_cancel e ▸ ho)
  rcases List.mem_cons.1 (P.mem_iff.1 hin) with rfl | hin
  · rw [if_pos fun e => hdiff (UInt8.toNat_inj.1 (e.trans hty.symm))]
  -- any other checked byte: the page-type byte is as before
  rw [hout [L.pgType] (fun h => hty_notin (List.mem_singleton.1 h ▸ hin)) _ List.mem_cons_self, if_neg fun h => h hty]
  rcases List.mem_append.1 hin with hin | hin
  · -- a hashed byte: the stored checksum is as before, the hash input differs in exactly one byte
    have hhash := (readMeta_hash_eq_iff L s s' base).2 (hout _ fun h => hdisj off hin off h rfl)
    obtain ⟨pre, post, h1, h2⟩ := map_split_of_nodup hndH hin (fun i => s.get (base + i))
      (fun i => s'.get (base + i)) fun i hi => hout [i] (fun h => hi (List.mem_singleton.1 h).symm) i List.mem_cons_self
    rw [← metaHashInput_readMeta] at h1 h2
    rw [one_hashed_byte_invalidates L order _ _ hval hhash pre post _ _ (Ne.symm hdiff) h1 h2]
    rfl
  · -- a byte of the stored checksum: the hash input is as before, the stored checksum differs
    have hinput : metaHashInput L order (readMeta L s' base) = metaHashInput L order (readMeta L s base) := by
      rw [metaHashInput_readMeta, metaHashInput_readMeta]
      exact List.map_congr_left (hout _ fun h => hdisj off h off hin rfl)
    rw [damaged_checksum_invalidates L order _ _ hval
      (fun e => hdiff ((readMeta_hash_eq_iff L s s' base).1 e off hin)) hinput]
    rfl

/-- `hall`: the hash order covers every field of the record, so that the two records are equal as a whole -/
theorem same_checked_bytes_same_slot (L : Layout) (order : List MetaField) (hall : ∀ f : MetaField, f ∈ order)
    (s s' : Src) (pagesize slot : Nat) (m : MetaRec)
    (hv : slotValid L order s pagesize slot = some m) (hsz : s'.size = s.size)
    (hsame : ∀ off ∈ checkedOffsets L order, s'.get (slot * pagesize + off) = s.get (slot * pagesize + off)) :
    slotValid L order s' pagesize slot = some m := by
  rw [← hv, slotValid_eq, slotValid_eq, hsz, hsame L.pgType List.mem_cons_self,
    readMeta_congr L (fun f o ho => hsame o (mem_checkedOffsets (hall f) ho))
      fun o ho => hsame o (checksum_mem_checkedOffsets ho)]

end Jamm
