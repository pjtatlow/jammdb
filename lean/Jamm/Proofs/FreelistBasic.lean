/-
The allocator's first-fit scan `findRun` is sound and complete (it fails only when no run of the requested length
exists).  The property statements are in the Bool forms the driver evaluates (`s.invB = true`, `ascending l = true`),
the lemmas in Prop (`Sys.Inv`, `Pairwise`); the `_iff` lemmas here and `invB_iff` are the bridges.  Also membership and
ascent of `FL.insertSorted` and of its fold, the common part of `FL.release` and `FL.init`, and what `FL.init` builds
(`FL.mem_init_free`, `FL.init_congr`).
-/
import Jamm.Model.FreelistInv
import Jamm.Proofs.ListLemmas

namespace Jamm

theorem ascending_iff (l : List Nat) : ascending l = true ↔ l.Pairwise (· < ·) := by
  fun_induction ascending l with
  | case1 => simp
  | case2 a => simp
  | case3 a b rest ih =>
    rw [Bool.and_eq_true, decide_eq_true_eq, ih, pairwise_cons_cons (R := (· < ·)) Nat.lt_trans]

theorem nodupB_iff (l : List Nat) : nodupB l = true ↔ l.Nodup := by
  induction l with
  | nil => simp [nodupB]
  | cons a l ih => simp [nodupB, ih]

theorem disjointB_iff (a b : List Nat) : disjointB a b = true ↔ ∀ p ∈ a, p ∉ b := by
  simp only [disjointB, List.all_eq_true, Bool.not_eq_true', ← Bool.not_eq_true, List.contains_iff_mem]

theorem hasRun_iff (n : Nat) (free : List Nat) :
    hasRun n free = true ↔ ∃ s ∈ free, ∀ i, i < n → s + i ∈ free := by
  simp only [hasRun, List.any_eq_true, List.all_eq_true, List.mem_range, List.contains_iff_mem]

theorem mem_insertSorted (p q : Nat) (l : List Nat) :
    q ∈ FL.insertSorted p l ↔ q = p ∨ q ∈ l := by
  fun_induction FL.insertSorted p l with
  | case1 => simp
  | case2 a rest h1 => simp
  | case3 rest h1 => simp
  | case4 a rest h1 h2 ih =>
    simp only [List.mem_cons, ih]
    exact or_left_comm

theorem pairwise_insertSorted (p : Nat) (l : List Nat) (h : l.Pairwise (· < ·)) :
    (FL.insertSorted p l).Pairwise (· < ·) := by
  fun_induction FL.insertSorted p l with
  | case1 => simp
  | case2 a rest h1 => exact (pairwise_cons_cons (R := (· < ·)) Nat.lt_trans).2 ⟨h1, h⟩
  | case3 rest h1 => exact h
  | case4 a rest h1 h2 ih =>
    rw [List.pairwise_cons] at h ⊢
    refine ⟨fun x hx => ?_, ih h.2⟩
    rcases (mem_insertSorted p x rest).1 hx with rfl | hx
    · omega
    · exact h.1 x hx

theorem mem_foldl_insertSorted (ps : List Nat) (init : List Nat) (q : Nat) :
    q ∈ ps.foldl (fun acc p => FL.insertSorted p acc) init ↔ q ∈ init ∨ q ∈ ps := by
  induction ps generalizing init with
  | nil => simp
  | cons a rest ih =>
    simp only [List.foldl_cons, ih, mem_insertSorted, List.mem_cons]
    rw [or_comm (a := q = a), or_assoc]

theorem pairwise_foldl_insertSorted (ps : List Nat) (init : List Nat) (h : init.Pairwise (· < ·)) :
    (ps.foldl (fun acc p => FL.insertSorted p acc) init).Pairwise (· < ·) :=
  foldl_keeps (fun acc p => pairwise_insertSorted p acc) ps init h

namespace FL

theorem mem_pages (f : FL) (p : Nat) : p ∈ f.pages ↔ (p ∈ f.free ∨ p ∈ f.pendingPages) := by
  unfold FL.pages FL.pendingPages
  rw [List.mem_eraseDups, List.mem_mergeSort, List.mem_append]

theorem mem_init_free (ps : List Nat) (p : Nat) : p ∈ (FL.init ps).free ↔ p ∈ ps := by
  unfold FL.init
  simp only [mem_foldl_insertSorted, List.not_mem_nil, false_or]

theorem init_free_pairwise (ps : List Nat) : (FL.init ps).free.Pairwise (· < ·) := by
  unfold FL.init
  exact pairwise_foldl_insertSorted ps [] List.Pairwise.nil

theorem init_congr (ps qs : List Nat) (h : ∀ p, p ∈ ps ↔ p ∈ qs) : FL.init ps = FL.init qs :=
  -- `pending` is `[]` on both sides, and two ascending lists with the same members are equal
  congrArg (fun l => ({ free := l, pending := [] } : FL))
    (pairwise_lt_ext _ _ (init_free_pairwise ps) (init_free_pairwise qs)
      (fun p => by rw [mem_init_free, mem_init_free]; exact h p) : (FL.init ps).free = (FL.init qs).free)

end FL

theorem init_pending (ps : List Nat) : (FL.init ps).pending = [] := rfl

theorem init_pendingPages (ps : List Nat) : (FL.init ps).pendingPages = [] := rfl

theorem sub_add_one_eq_iff {id start n : Nat} (h : start ≤ id) : id - start + 1 = n ↔ id + 1 = start + n := by
  obtain ⟨d, rfl⟩ := Nat.exists_eq_add_of_le h
  rw [Nat.add_sub_cancel_left, Nat.add_assoc, Nat.add_left_cancel_iff]

/-- the step of the scan with additive conditions: `omega` on `id - prev ≠ 1` and `id - start + 1 = n` is several
times as slow -/
theorem findRun_cons {n id start prev : Nat} (rest : List Nat) (hsp : prev ≠ 0 → start ≤ prev) :
    FL.findRun n (id :: rest) start prev =
      if prev ≠ 0 ∧ id = prev + 1 then
        if id + 1 = start + n then some start else FL.findRun n rest start id
      else if n = 1 then some id else FL.findRun n rest id id := by
  conv => lhs; unfold FL.findRun
  by_cases hc : prev ≠ 0 ∧ id = prev + 1
  · have h1 : ¬ (prev = 0 ∨ id - prev ≠ 1) := fun h =>
      h.elim hc.1 (fun h => h (by rw [hc.2, Nat.add_sub_cancel_left]))
    have hsi : start ≤ id := by rw [hc.2]; exact Nat.le_succ_of_le (hsp hc.1)
    rw [if_pos hc]
    simp only [h1, sub_add_one_eq_iff (n := n) hsi, if_false]
  · -- not adjacent: `id - prev = 1` would give `id = prev + 1`; the new run starts at `id`, and `id - id + 1 = n` is
    -- `n = 1`
    have h1 : prev = 0 ∨ id - prev ≠ 1 := (Decidable.em (prev = 0)).imp_right fun h0 h =>
      hc ⟨h0, by rw [(Nat.sub_eq_iff_eq_add (Nat.le_of_lt (Nat.lt_of_sub_pos (h ▸ Nat.one_pos)))).1 h, Nat.add_comm]⟩
    rw [if_neg hc]
    simp only [h1, sub_add_one_eq_iff (n := n) (Nat.le_refl id), Nat.add_left_cancel_iff, if_true,
      eq_comm (a := 1)]

/-- `P` is `· ∈ free` for the whole list, while the induction runs over the suffix still to be scanned -/
theorem findRun_sound_aux (n : Nat) (P : Nat → Prop) (s : Nat) :
    ∀ (l : List Nat) (start prev : Nat), (∀ p ∈ l, P p) →
      (prev ≠ 0 → start ≤ prev ∧ ∀ j, start ≤ j → j ≤ prev → P j) →
      FL.findRun n l start prev = some s → ∀ i, i < n → P (s + i) := by
  intro l
  induction l with
  | nil => intro start prev _ _ h; simp [FL.findRun] at h
  | cons id rest ih =>
    intro start prev hl hrun h i hi
    have hPid := hl id (List.mem_cons_self ..)
    have hrest : ∀ p ∈ rest, P p := fun p hp => hl p (List.mem_cons_of_mem _ hp)
    rw [findRun_cons rest (fun h => (hrun h).1)] at h
    split at h
    · rename_i hadj
      obtain ⟨h0, rfl⟩ := hadj
      obtain ⟨hsp, hrun⟩ := hrun h0
      have hrun' : ∀ j, start ≤ j → j ≤ prev + 1 → P j := fun j h1 h2 =>
        (Nat.le_or_eq_of_le_succ h2).elim (hrun j h1) (fun e => e ▸ hPid)
      split at h
      · cases h
        exact hrun' _ (Nat.le_add_right _ i) (by omega)
      · exact ih start (prev + 1) hrest (fun _ => ⟨Nat.le_succ_of_le hsp, hrun'⟩) h i hi
    · split at h
      · rename_i hn1
        cases h
        exact (Nat.lt_one_iff.1 (hn1 ▸ hi)) ▸ hPid
      · exact ih id id hrest (fun _ => ⟨Nat.le_refl _, fun j h1 h2 => Nat.le_antisymm h2 h1 ▸ hPid⟩) h i hi

theorem findRun_sound {n s : Nat} {free : List Nat} (h : FL.findRun n free 0 0 = some s) :
    ∀ i, i < n → s + i ∈ free :=
  findRun_sound_aux n (· ∈ free) s free 0 0 (fun _ hp => hp) (fun h0 => absurd rfl h0) h

/-- `L` is the whole list, `l` the part still to be scanned; every start below `start` is known to be bad, and the
current run `[start, prev]` is still shorter than `n` -/
theorem findRun_complete_aux (n : Nat) (hn : 0 < n) (L : List Nat) (h2 : ∀ x ∈ L, 2 ≤ x) :
    ∀ (l : List Nat) (start prev : Nat), l.Pairwise (· < ·) → (∀ x ∈ l, prev < x) →
      (∀ x ∈ L, x ∈ l ∨ x ≤ prev) → start ≤ prev → (prev ≠ 0 → prev + 1 < start + n) →
      (∀ s ∈ L, s < start → ∃ i, i < n ∧ s + i ∉ L) →
      FL.findRun n l start prev = none → ∀ s ∈ L, ∃ i, i < n ∧ s + i ∉ L := by
  -- once `prev + 1` is known not to be listed, the run `[start, prev]` is too short for any start in it
  have close : ∀ start prev, (prev ≠ 0 → prev + 1 < start + n) → prev + 1 ∉ L →
      (∀ s ∈ L, s < start → ∃ i, i < n ∧ s + i ∉ L) → ∀ s ∈ L, s ≤ prev → ∃ i, i < n ∧ s + i ∉ L := by
    intro start prev hinv hnot hbad s hs hsp
    by_cases hlt : s < start
    · exact hbad s hs hlt
    · have h0 : prev ≠ 0 := Nat.ne_of_gt (Nat.lt_of_lt_of_le Nat.zero_lt_two (Nat.le_trans (h2 s hs) hsp))
      have := hinv h0
      obtain ⟨d, e⟩ : ∃ d, prev + 1 = s + d := Nat.exists_eq_add_of_le (Nat.le_succ_of_le hsp)
      exact ⟨d, by omega, fun hm => hnot (e ▸ hm)⟩
  intro l
  induction l with
  | nil =>
    intro start prev _ _ hL hsp hinv hbad _ s hs
    have hle : ∀ x ∈ L, x ≤ prev := fun x hx => (hL x hx).elim (fun h => nomatch h) (fun h => h)
    exact close start prev hinv (fun hm => Nat.not_succ_le_self _ (hle _ hm)) hbad s hs (hle s hs)
  | cons id rest ih =>
    intro start prev hpw hgt hL hsp hinv hbad h
    rw [List.pairwise_cons] at hpw
    have hidp : prev < id := hgt id (List.mem_cons_self ..)
    have hL' : ∀ x ∈ L, x ∈ rest ∨ x ≤ id := fun x hx =>
      (hL x hx).elim (fun h => (List.mem_cons.1 h).elim (fun e => Or.inr (Nat.le_of_eq e)) Or.inl)
        (fun h => Or.inr (Nat.le_trans h (Nat.le_of_lt hidp)))
    rw [findRun_cons rest (fun _ => hsp)] at h
    split at h
    · split at h
      · cases h
      · exact ih start id hpw.2 hpw.1 hL' (by omega) (fun _ => by omega) hbad h
    · -- a gap before `id`: `prev + 1` is not listed
      rename_i hgap
      split at h
      · cases h
      · -- a new run of one page, shorter than `n` since `n ≠ 1` and `0 < n`
        refine ih id id hpw.2 hpw.1 hL' (Nat.le_refl _) (fun _ => by omega) ?_ h
        intro s hs hsid
        have hsp' : s ≤ prev := by
          rcases hL s hs with h | h
          · rcases List.mem_cons.1 h with e | h
            · exact absurd (e ▸ hsid) (Nat.lt_irrefl _)
            · exact absurd hsid (Nat.lt_asymm (hpw.1 _ h))
          · exact h
        have h0 : prev ≠ 0 := Nat.ne_of_gt (Nat.lt_of_lt_of_le Nat.zero_lt_two (Nat.le_trans (h2 s hs) hsp'))
        have hnot : prev + 1 ∉ L := by
          intro hm
          rcases hL _ hm with h | h
          · rcases List.mem_cons.1 h with e | h
            · exact hgap ⟨h0, e.symm⟩
            · exact absurd (hpw.1 _ h) (Nat.not_lt.2 hidp)
          · exact absurd h (Nat.not_succ_le_self prev)
        exact close start prev hinv hnot hbad s hs hsp'

theorem findRun_complete {n : Nat} {free : List Nat} (hn : 0 < n) (ha : free.Pairwise (· < ·))
    (h2 : ∀ p ∈ free, 2 ≤ p) (h : FL.findRun n free 0 0 = none) :
    hasRun n free = false := by
  have hall := findRun_complete_aux n hn free h2 free 0 0 ha
    (fun x hx => Nat.lt_of_lt_of_le Nat.zero_lt_two (h2 x hx)) (fun x hx => Or.inl hx) (Nat.le_refl 0)
    (fun h0 => absurd rfl h0) (fun s _ h0 => absurd h0 (Nat.not_lt_zero s)) h
  refine Bool.eq_false_iff.2 fun hrun => ?_
  obtain ⟨s, hs, hrun⟩ := (hasRun_iff n free).1 hrun
  obtain ⟨i, hi, hni⟩ := hall s hs
  exact hni (hrun i hi)

end Jamm
