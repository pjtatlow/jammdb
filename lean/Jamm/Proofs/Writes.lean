/-
Lists of writes (`applyWrites`).  An ascending chain (`Asc`: the fields of one record, in layout order) makes pairwise
disjointness (`WDisj`) immediate.  `ElemKind` is the element loop of `Page::write_node` for any kind of element; leaf
and branch are the two kinds (`Proofs/EncodeLemmas.lean`).
-/
import Jamm.Model.EncodeWrites
import Jamm.Proofs.EncodeBasic
import Jamm.Proofs.ListLemmas
namespace Jamm

section
variable (L : Layout)

theorem applyWrites_append (a b : List (Nat × List UInt8)) (s : Src) :
    applyWrites (a ++ b) s = applyWrites b (applyWrites a s) := by
  simp [applyWrites]

theorem writeLeafElems_eq (base n : Nat) (es : List (Bytes × LeafVal)) (i doff : Nat) (s : Src) :
    writeLeafElems L base n es i doff s = applyWrites (leafElemWrites L base n es i doff) s := by
  induction es generalizing i doff s with
  | nil => rfl
  | cons e rest ih =>
    obtain ⟨k, v⟩ := e
    simp only [writeLeafElems, leafElemWrites, applyWrites_append]
    rw [ih]
    rfl

theorem writeBranchElems_eq (base n : Nat) (es : List (Bytes × Nat)) (i doff : Nat) (s : Src) :
    writeBranchElems L base n es i doff s = applyWrites (branchElemWrites L base n es i doff) s := by
  induction es generalizing i doff s with
  | nil => rfl
  | cons e rest ih =>
    obtain ⟨k, v⟩ := e
    simp only [writeBranchElems, branchElemWrites, applyWrites_append]
    rw [ih]
    rfl

theorem writeLeafPage_eq (pagesize pid overflow : Nat) (es : List (Bytes × LeafVal)) (s : Src) :
    writeLeafPage L pagesize pid overflow es s = applyWrites (leafPageWrites L pagesize pid overflow es) s := by
  simp only [writeLeafPage, leafPageWrites, applyWrites_append, writeLeafElems_eq]
  rfl

theorem writeBranchPage_eq (pagesize pid overflow : Nat) (es : List (Bytes × Nat)) (s : Src) :
    writeBranchPage L pagesize pid overflow es s = applyWrites (branchPageWrites L pagesize pid overflow es) s := by
  simp only [writeBranchPage, branchPageWrites, applyWrites_append, writeBranchElems_eq]
  rfl

end

theorem Src.holds_iff (s : Src) (w : Nat × List UInt8) : s.holds w = true ↔ s.HasAt w.1 w.2 := by
  rw [Src.holds, beq_iff_eq]
  refine ⟨fun h j hj => ?_, fun h => h.bytes⟩
  have e := congrArg (fun l => l.getD j 0) h
  simpa [Src.bytes, List.getD, hj] using e

theorem applyWrites_nil (s : Src) : applyWrites [] s = s := rfl

theorem applyWrites_cons (w : Nat × List UInt8) (ws : List (Nat × List UInt8)) (s : Src) :
    applyWrites (w :: ws) s = applyWrites ws (s.write w.1 w.2) := rfl

theorem applyWrites_size (ws : List (Nat × List UInt8)) (s : Src) : (applyWrites ws s).size = s.size :=
  foldl_unchanged (fun (s : Src) (w : Nat × List UInt8) => s.write w.1 w.2) Src.size ws (fun _ _ _ => rfl) s

theorem applyWrites_get_out (ws : List (Nat × List UInt8)) (s : Src) (i : Nat)
    (h : ∀ w ∈ ws, i < w.1 ∨ w.1 + w.2.length ≤ i) : (applyWrites ws s).get i = s.get i :=
  foldl_unchanged (fun (s : Src) (w : Nat × List UInt8) => s.write w.1 w.2) (·.get i) ws
    (fun w hw b => Src.write_get_out b _ _ i (h w hw)) s

theorem applyWrites_frame {ws : List (Nat × List UInt8)} {lo hi : Nat}
    (h : ∀ w ∈ ws, lo ≤ w.1 ∧ w.1 + w.2.length ≤ hi) (s : Src) (i : Nat) (hout : i < lo ∨ hi ≤ i) :
    (applyWrites ws s).get i = s.get i :=
  applyWrites_get_out ws s i (fun w hw => by have := h w hw; omega)

theorem Src.HasAt.applyWrites_disj {s : Src} {a : Nat} {bs : List UInt8} (h : s.HasAt a bs)
    (ws : List (Nat × List UInt8))
    (hd : ∀ w ∈ ws, a + bs.length ≤ w.1 ∨ w.1 + w.2.length ≤ a) : (applyWrites ws s).HasAt a bs :=
  h.of_agreeOn (fun k h1 h2 => applyWrites_get_out ws s k (fun w hw => by
    have := hd w hw; omega))

def WDisj (a b : Nat × List UInt8) : Prop := a.1 + a.2.length ≤ b.1 ∨ b.1 + b.2.length ≤ a.1

theorem applyWrites_hasAt : ∀ (ws : List (Nat × List UInt8)) (s : Src), ws.Pairwise WDisj →
    ∀ w ∈ ws, (applyWrites ws s).HasAt w.1 w.2 := by
  intro ws
  induction ws with
  | nil => intro s _ w hw; cases hw
  | cons a rest ih =>
    intro s hp w hw
    rw [List.pairwise_cons] at hp
    rw [applyWrites_cons]
    rcases List.mem_cons.1 hw with rfl | hw
    · exact (Src.hasAt_write_self s _ _).applyWrites_disj rest (fun b hb => hp.1 b hb)
    · exact ih _ hp.2 w hw

/-- the writes lie in `[lo, hi)`, in ascending order and without overlap -/
def Asc (lo : Nat) : List (Nat × List UInt8) → Nat → Prop
  | [], hi => lo ≤ hi
  | w :: ws, hi => lo ≤ w.1 ∧ Asc (w.1 + w.2.length) ws hi

/-- `Asc` of a literal record is proved by `simp only [Asc, leBytes_length, …]` and one `asc_link` per adjacent pair -/
theorem asc_link (e : Nat) {a n b : Nat} (h : a + n ≤ b) : e + a + n ≤ e + b := by omega

theorem Asc.lo_le_hi {ws : List (Nat × List UInt8)} : ∀ {lo hi : Nat}, Asc lo ws hi → lo ≤ hi := by
  induction ws with
  | nil => exact id
  | cons w ws ih => exact fun h => Nat.le_trans (Nat.le_trans h.1 (Nat.le_add_right _ _)) (ih h.2)

theorem Asc.range {ws : List (Nat × List UInt8)} : ∀ {lo hi : Nat}, Asc lo ws hi →
    ∀ w ∈ ws, lo ≤ w.1 ∧ w.1 + w.2.length ≤ hi := by
  induction ws with
  | nil => intro _ _ _ w hw; cases hw
  | cons a ws ih =>
    intro lo hi h w hw
    rcases List.mem_cons.1 hw with rfl | hw
    · exact ⟨h.1, h.2.lo_le_hi⟩
    · exact ⟨Nat.le_trans (Nat.le_trans h.1 (Nat.le_add_right _ _)) (ih h.2 w hw).1, (ih h.2 w hw).2⟩

theorem Asc.pairwise {ws : List (Nat × List UInt8)} : ∀ {lo hi : Nat}, Asc lo ws hi → ws.Pairwise WDisj := by
  induction ws with
  | nil => exact fun _ => List.Pairwise.nil
  | cons a ws ih => exact fun h => List.pairwise_cons.2 ⟨fun b hb => Or.inl (h.2.range b hb).1, ih h.2⟩

theorem Asc.le_agree {ws : List (Nat × List UInt8)} {lo hi : Nat} (hA : Asc lo ws hi) {s s' : Src}
    (h : Src.AgreeOn s s' lo hi) : ∀ w ∈ ws, s'.le w.1 w.2.length = s.le w.1 w.2.length :=
  fun w hw => h.le _ _ (hA.range w hw).1 (hA.range w hw).2

theorem Asc.append {a b : List (Nat × List UInt8)} {lo mid mid' hi : Nat} (h : Asc lo a mid) (hb : Asc mid' b hi)
    (hm : mid ≤ mid') : Asc lo (a ++ b) hi := by
  induction a generalizing lo with
  | nil =>
    cases b with
    | nil => exact Nat.le_trans h (Nat.le_trans hm hb)
    | cons w ws => exact ⟨Nat.le_trans h (Nat.le_trans hm hb.1), hb.2⟩
  | cons w ws ih => exact ⟨h.1, ih h.2⟩

/-- the only arithmetic about `i * sz` the element arrays need -/
theorem elem_addr (sz n i : Nat) (h : i < n) (b doff : Nat) :
    b + i * sz + ((n - i) * sz + doff) = b + n * sz + doff ∧ b + (i + 1) * sz = b + i * sz + sz ∧
    b + i * sz + sz ≤ b + n * sz := by
  have e1 : (i + 1) * sz = i * sz + sz := Nat.succ_mul _ _
  have e3 : (i + 1) * sz ≤ n * sz := Nat.mul_le_mul_right _ h
  have e2 : (n - i) * sz + i * sz = n * sz := by rw [← Nat.add_mul, Nat.sub_add_cancel (Nat.le_of_lt h)]
  omega

/-- A kind of element of a node's page (`Page::write_node` has two, leaf and branch): the size of its record, the
fields of the record at `e` of an entry whose data starts at `e + pos`, and the data of an entry. -/
structure ElemKind (α : Type) where
  sz : Nat
  flds : Nat → Nat → α → List (Nat × List UInt8)
  data : α → List UInt8

namespace ElemKind
variable {α : Type} (K : ElemKind α)

/-- the data is packed in entry order right above the `n` records, `doff` bytes of it so far -/
def writes (b n : Nat) : List α → Nat → Nat → List (Nat × List UInt8)
  | [], _, _ => []
  | x :: rest, i, doff =>
    K.flds (b + i * K.sz) ((n - i) * K.sz + doff) x ++
      (b + i * K.sz + ((n - i) * K.sz + doff), K.data x) :: writes b n rest (i + 1) (doff + (K.data x).length)

def dataLen (es : List α) : Nat := (es.map fun x => (K.data x).length).sum

theorem dataLen_cons (x : α) (rest : List α) : K.dataLen (x :: rest) = (K.data x).length + K.dataLen rest := by
  simp [dataLen]

def FldsAsc : Prop := ∀ e pos x, Asc e (K.flds e pos x) (e + K.sz)

/-- the second disjunct bounds the data from `doff` on, so that the induction hypothesis at `doff + (K.data x).length` is
again of this form -/
theorem writes_spec (hK : K.FldsAsc) (b n : Nat) : ∀ (es : List α) (i doff : Nat), i + es.length = n →
    (K.writes b n es i doff).Pairwise WDisj ∧ ∀ w ∈ K.writes b n es i doff,
      (b + i * K.sz ≤ w.1 ∧ w.1 + w.2.length ≤ b + n * K.sz) ∨
      (b + n * K.sz + doff ≤ w.1 ∧ w.1 + w.2.length ≤ b + n * K.sz + doff + K.dataLen es) := by
  intro es
  induction es with
  | nil => intro _ _ _; exact ⟨.nil, fun _ h => nomatch h⟩
  | cons x rest ih =>
    intro i doff hn
    simp only [List.length_cons] at hn
    obtain ⟨e2, e1, e3⟩ := elem_addr K.sz n i (by omega) b doff
    obtain ⟨hp, hz⟩ := ih (i + 1) (doff + (K.data x).length) (by omega)
    have hf := hK (b + i * K.sz) ((n - i) * K.sz + doff) x
    rw [writes, e2, dataLen_cons, ← Nat.add_assoc]
    rw [e1, ← Nat.add_assoc] at hz
    -- from here on only addresses: `e` this record, `r` the end of the records, `r + doff` this entry's data
    generalize b + i * K.sz = e at *
    generalize b + n * K.sz = r at *
    generalize K.flds e _ x = fl at *
    have hfr : ∀ a ∈ fl, e ≤ a.1 ∧ a.1 + a.2.length ≤ r := fun a ha =>
      ⟨(hf.range a ha).1, Nat.le_trans (hf.range a ha).2 e3⟩
    refine ⟨List.pairwise_append.2 ⟨hf.pairwise, List.pairwise_cons.2 ⟨fun y hy => ?_, hp⟩, fun a ha y hy => ?_⟩,
      fun w hw => ?_⟩
    · -- this entry's data and a later write: a record ends below `r`, later data begins where this ends
      exact (hz y hy).elim (fun h => Or.inr (Nat.le_trans h.2 (Nat.le_add_right _ _))) (fun h => Or.inl h.1)
    · -- a field of this record ends below the next record and below all data
      rcases List.mem_cons.1 hy with rfl | hy
      · exact Or.inl (Nat.le_trans (hfr a ha).2 (Nat.le_add_right _ _))
      · exact Or.inl ((hz y hy).elim (fun h => Nat.le_trans (hf.range a ha).2 h.1)
          (fun h => Nat.le_trans (hfr a ha).2 (Nat.le_trans (Nat.le_add_right_of_le (Nat.le_add_right _ _)) h.1)))
    · rcases List.mem_append.1 hw with hw | hw
      · exact Or.inl (hfr w hw)
      · rcases List.mem_cons.1 hw with rfl | hw
        · exact Or.inr ⟨Nat.le_refl _, Nat.le_add_right _ _⟩
        · exact (hz w hw).imp (fun h => ⟨Nat.le_trans (Nat.le_add_right _ _) h.1, h.2⟩)
            (fun h => ⟨Nat.le_trans (Nat.le_add_right _ _) h.1, h.2⟩)

/-- A decoder loop `dec` (entries still to read, index of the next) reads an element array back from any source that
holds its writes, provided one step does. -/
theorem decode_writes {ε : Type} {ok : α → Prop} (dec : Nat → Nat → Except ε (List α)) (s : Src)
    (b n runEnd : Nat) (h0 : ∀ i, dec 0 i = .ok [])
    (step : ∀ m i pos x rest, ok x → b + i * K.sz + K.sz ≤ runEnd →
      b + i * K.sz + pos + (K.data x).length ≤ runEnd →
      (∀ w ∈ K.flds (b + i * K.sz) pos x, s.HasAt w.1 w.2) → s.HasAt (b + i * K.sz + pos) (K.data x) →
      dec m (i + 1) = .ok rest → dec (m + 1) i = .ok (x :: rest)) :
    ∀ (es : List α) (i doff : Nat), i + es.length = n → b + n * K.sz + doff + K.dataLen es ≤ runEnd →
    (∀ x ∈ es, ok x) → (∀ w ∈ K.writes b n es i doff, s.HasAt w.1 w.2) → dec es.length i = .ok es := by
  intro es
  induction es with
  | nil => intro i _ _ _ _ _; exact h0 i
  | cons x rest ih =>
    intro i doff hn hend hok H
    simp only [List.length_cons] at hn
    obtain ⟨e2, -, e3⟩ := elem_addr K.sz n i (by omega) b doff
    rw [dataLen_cons] at hend
    simp only [writes, List.forall_mem_append, List.forall_mem_cons] at H
    exact step rest.length i _ x rest (hok x List.mem_cons_self) (by omega) (by omega) H.1 H.2.1
      (ih (i + 1) _ (by omega) (by omega) (fun y hy => hok y (List.mem_cons_of_mem _ hy)) H.2.2)

end ElemKind

end Jamm
