/-
Page runs as byte ranges (a run `(p, o)` is the pages `p … p + o`), and the one argument every multi-page writer of
Layer S rests on: what reads only runs that share no page with the runs a writer changes survives the writer
(`ReadsRuns.after`); for writers that run one after the other on pairwise disjoint runs, each taking its own precondition
to its own postcondition, all postconditions hold at the end (`foldl_stores`).
-/
import Jamm.Model.EncodeTree
import Jamm.Proofs.EncodeBasic
import Jamm.Proofs.ListLemmas

namespace Jamm

theorem runsDisjoint_symm {a b : Nat × Nat} (h : runsDisjoint a b) : runsDisjoint b a := Or.symm h

section
variable (pagesize : Nat)

def RunOut (rs : List (Nat × Nat)) (i : Nat) : Prop :=
  ∀ r ∈ rs, i < r.1 * pagesize ∨ (r.1 + r.2 + 1) * pagesize ≤ i

def WritesRuns (rs : List (Nat × Nat)) (w : Src → Src) : Prop :=
  ∀ s, (w s).size = s.size ∧ ∀ i, RunOut pagesize rs i → (w s).get i = s.get i

def ReadsRuns (rs : List (Nat × Nat)) (P : Src → Prop) : Prop :=
  ∀ s s' : Src, s'.size = s.size →
    (∀ r ∈ rs, Src.AgreeOn s s' (r.1 * pagesize) ((r.1 + r.2 + 1) * pagesize)) → P s → P s'

theorem run_bytes (p o : Nat) : (p + o + 1) * pagesize = p * pagesize + (o + 1) * pagesize := by
  rw [Nat.add_assoc, Nat.add_mul]

end

section
variable {pagesize : Nat}

theorem runOut_run {p o i : Nat} :
    RunOut pagesize [(p, o)] i ↔ i < p * pagesize ∨ p * pagesize + (o + 1) * pagesize ≤ i := by
  simp only [RunOut, List.forall_mem_singleton, run_bytes]

theorem runOut_page {p i : Nat} : RunOut pagesize [(p, 0)] i ↔ i < p * pagesize ∨ p * pagesize + pagesize ≤ i := by
  rw [runOut_run, Nat.zero_add, Nat.one_mul]

theorem RunOut.mono {rs rs' : List (Nat × Nat)} {i : Nat} (h : RunOut pagesize rs' i) (hsub : rs ⊆ rs') :
    RunOut pagesize rs i :=
  fun r hr => h r (hsub hr)

theorem WritesRuns.size {rs : List (Nat × Nat)} {w : Src → Src} (hw : WritesRuns pagesize rs w) (s : Src) :
    (w s).size = s.size :=
  (hw s).1

theorem WritesRuns.get {rs : List (Nat × Nat)} {w : Src → Src} (hw : WritesRuns pagesize rs w) (s : Src) {i : Nat}
    (hi : RunOut pagesize rs i) : (w s).get i = s.get i :=
  (hw s).2 i hi

theorem WritesRuns.mono {rs rs' : List (Nat × Nat)} {w : Src → Src} (hw : WritesRuns pagesize rs w) (hsub : rs ⊆ rs') :
    WritesRuns pagesize rs' w :=
  fun s => ⟨hw.size s, fun _ hi => hw.get s (hi.mono hsub)⟩

/-- a writer that keeps the size and every byte outside `n` bytes from the start of page `p`, with `n` inside the run -/
theorem WritesRuns.of_frame {w : Src → Src} {p o n : Nat} (hn : n ≤ (o + 1) * pagesize)
    (hw : ∀ s, (w s).size = s.size ∧ ∀ i, i < p * pagesize ∨ p * pagesize + n ≤ i → (w s).get i = s.get i) :
    WritesRuns pagesize [(p, o)] w :=
  fun s => ⟨(hw s).1, fun i hi => (hw s).2 i ((runOut_run.1 hi).imp_right (Nat.le_trans (Nat.add_le_add_left hn _)))⟩

theorem WritesRuns.ite {rs : List (Nat × Nat)} {w : Src → Src} (c : Bool) (hw : WritesRuns pagesize rs w) :
    WritesRuns pagesize (if c then rs else []) (fun s => if c then w s else s) := by
  cases c
  · exact fun _ => ⟨rfl, fun _ _ => rfl⟩
  · exact hw

theorem WritesRuns.ite_same {rs : List (Nat × Nat)} {w : Src → Src} (c : Bool) (hw : WritesRuns pagesize rs w) :
    WritesRuns pagesize rs (fun s => if c then w s else s) := by
  cases c
  · exact fun _ => ⟨rfl, fun _ _ => rfl⟩
  · exact hw

theorem WritesRuns.then {rs₁ rs₂ : List (Nat × Nat)} {w₁ w₂ : Src → Src} (h₁ : WritesRuns pagesize rs₁ w₁)
    (h₂ : WritesRuns pagesize rs₂ w₂) : WritesRuns pagesize (rs₁ ++ rs₂) (fun s => w₂ (w₁ s)) :=
  fun s => ⟨(h₂.size _).trans (h₁.size s), fun _ hi =>
    (h₂.get _ (hi.mono (List.subset_append_right _ _))).trans (h₁.get s (hi.mono (List.subset_append_left _ _)))⟩

theorem WritesRuns.foldl {α : Type} {w : α → Src → Src} {rs : α → List (Nat × Nat)} {l : List α}
    (h : ∀ a ∈ l, WritesRuns pagesize (rs a) (w a)) :
    WritesRuns pagesize (l.flatMap rs) (fun s => l.foldl (fun acc a => w a acc) s) :=
  fun s => ⟨foldl_unchanged _ Src.size l (fun a ha s' => (h a ha).size s') s, fun i hi =>
    foldl_unchanged _ (·.get i) l
      (fun a ha s' => (h a ha).get s' fun r hr => hi r (List.mem_flatMap.2 ⟨a, ha, hr⟩)) s⟩

theorem ReadsRuns.mono {rs rs' : List (Nat × Nat)} {P : Src → Prop} (h : ReadsRuns pagesize rs P) (hsub : rs ⊆ rs') :
    ReadsRuns pagesize rs' P :=
  fun s s' hsz hag => h s s' hsz fun r hr => hag r (hsub hr)

theorem runsDisjoint_out {a b : Nat × Nat} (h : runsDisjoint a b) (i : Nat) (h1 : a.1 * pagesize ≤ i)
    (h2 : i < (a.1 + a.2 + 1) * pagesize) : i < b.1 * pagesize ∨ (b.1 + b.2 + 1) * pagesize ≤ i := by
  rcases h with h | h
  · left; exact Nat.lt_of_lt_of_le h2 (Nat.mul_le_mul_right _ h)
  · right; exact Nat.le_trans (Nat.mul_le_mul_right _ h) h1

theorem agreeOn_of_runOut {s s' : Src} {wr : List (Nat × Nat)} (hout : ∀ i, RunOut pagesize wr i → s'.get i = s.get i)
    {a : Nat × Nat} (hd : ∀ b ∈ wr, runsDisjoint a b) :
    Src.AgreeOn s s' (a.1 * pagesize) ((a.1 + a.2 + 1) * pagesize) :=
  fun i i1 i2 => hout i fun b hb => runsDisjoint_out (hd b hb) i i1 i2

theorem ReadsRuns.after {rs wr : List (Nat × Nat)} {P : Src → Prop} {w : Src → Src} (hP : ReadsRuns pagesize rs P)
    (hw : WritesRuns pagesize wr w) (hd : ∀ a ∈ rs, ∀ b ∈ wr, runsDisjoint a b) {s : Src} (h : P s) : P (w s) :=
  hP s (w s) (hw.size s) (fun a ha => agreeOn_of_runOut (fun _ => hw.get s) (hd a ha)) h

theorem ReadsRuns.and {rs₁ rs₂ : List (Nat × Nat)} {P Q : Src → Prop} (h₁ : ReadsRuns pagesize rs₁ P)
    (h₂ : ReadsRuns pagesize rs₂ Q) : ReadsRuns pagesize (rs₁ ++ rs₂) (fun s => P s ∧ Q s) :=
  fun s s' hsz hag h => ⟨h₁.mono (List.subset_append_left _ _) s s' hsz hag h.1,
    h₂.mono (List.subset_append_right _ _) s s' hsz hag h.2⟩

/-- `P₀` is a bystander that reads only runs `rs₀` disjoint from every member's; the induction is on it: a member that
has been written becomes one.  `sz` is the size of the file: the members' step lemmas are stated for a file of fixed size
because `nodesFit` / `BucketView.fits` refer to it -/
theorem foldl_stores {α : Type} (sz : Nat) {w : α → Src → Src} {rs : α → List (Nat × Nat)}
    {Pre Post : α → Src → Prop} {l : List α} {P₀ : Src → Prop} {rs₀ : List (Nat × Nat)}
    (hw : ∀ a ∈ l, WritesRuns pagesize (rs a) (w a))
    (hpre : ∀ a ∈ l, ReadsRuns pagesize (rs a) (Pre a)) (hpost : ∀ a ∈ l, ReadsRuns pagesize (rs a) (Post a))
    (hstep : ∀ a ∈ l, ∀ s, s.size = sz → Pre a s → Post a (w a s))
    (hdisj : l.Pairwise (fun a b => ∀ x ∈ rs a, ∀ y ∈ rs b, runsDisjoint x y))
    (hP₀ : ReadsRuns pagesize rs₀ P₀) (hd₀ : ∀ x ∈ rs₀, ∀ a ∈ l, ∀ y ∈ rs a, runsDisjoint x y)
    (s : Src) (hs : s.size = sz) (h₀ : P₀ s) (h : ∀ a ∈ l, Pre a s) :
    P₀ (l.foldl (fun acc a => w a acc) s) ∧ ∀ a ∈ l, Post a (l.foldl (fun acc a => w a acc) s) := by
  induction l generalizing P₀ rs₀ s with
  | nil => exact ⟨h₀, fun _ h => nomatch h⟩
  | cons y l ih =>
    rw [List.pairwise_cons] at hdisj
    rw [List.forall_mem_cons] at hw hpre hpost hstep h
    -- after `w y`: the bystander and the other members' preconditions have survived, and `y` has become a bystander
    have h₀y : P₀ (w y s) ∧ Post y (w y s) :=
      ⟨hP₀.after hw.1 (fun x hx => hd₀ x hx y List.mem_cons_self) h₀, hstep.1 s hs h.1⟩
    have hl : ∀ a ∈ l, Pre a (w y s) := fun a ha =>
      (hpre.2 a ha).after hw.1 (fun x hx z hz => runsDisjoint_symm (hdisj.1 a ha z hz x hx)) (h.2 a ha)
    obtain ⟨⟨h₀', hy⟩, hl'⟩ := ih (P₀ := fun s => P₀ s ∧ Post y s) (rs₀ := rs₀ ++ rs y) hw.2 hpre.2 hpost.2 hstep.2
      hdisj.2 (hP₀.and hpost.1)
      (fun x hx a ha z hz => (List.mem_append.1 hx).elim (fun hx => hd₀ x hx a (List.mem_cons_of_mem _ ha) z hz)
        fun hx => hdisj.1 a ha x hx z hz)
      (w y s) ((hw.1.size s).trans hs) h₀y hl
    exact ⟨h₀', List.forall_mem_cons.2 ⟨hy, hl'⟩⟩

end
end Jamm
