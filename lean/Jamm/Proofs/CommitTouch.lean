/-
Layer C: `Tree.touch` / `Tree.touchAll` (the `put_leaf` of a committed nested bucket's header: every node on the
search path to the key becomes a node of the transaction) change nothing but the "materialised" mark of the nodes
on one path.  Tightness is kept in the form `TightMT`: a touched node is materialised, so nothing is demanded of
it any more, and its entries keep the bounds they had.
-/
import Jamm.Proofs.CommitInvLemmas
open Std

namespace Jamm

section
variable {K E : Type} [Ord K]

theorem touchAt_nil (key : K) (i : Nat) : Forest.touchAt key (.nil : Forest K E) i = .nil := by
  cases i <;> simp only [Forest.touchAt]

theorem touchAt_cons_zero (key k : K) (t : Tree K E) (rest : Forest K E) :
    Forest.touchAt key (.cons k t rest) 0 = .cons k (t.touch key) rest := by
  simp only [Forest.touchAt]

theorem touchAt_cons_succ (key k : K) (t : Tree K E) (rest : Forest K E) (i : Nat) :
    Forest.touchAt key (.cons k t rest) (i + 1) = .cons k t (Forest.touchAt key rest i) := by
  simp only [Forest.touchAt]

theorem touch_leaf (key : K) (p : Nat) (es : List (K × E)) :
    (Tree.leaf p es).touch key = .leaf (mkPid (nodePage p) true) es := by
  simp only [Tree.touch]

theorem touch_branch (key : K) (p : Nat) (kids : Forest K E) :
    (Tree.branch p kids).touch key =
      .branch (mkPid (nodePage p) true) (Forest.touchAt key kids (indexOf kids.keys key).1) := by
  simp only [Tree.touch]

theorem touchAll_nil (t : Tree K E) : t.touchAll [] = t := rfl

theorem touchAll_cons (t : Tree K E) (k : K) (ks : List K) :
    t.touchAll (k :: ks) = (t.touch k).touchAll ks := rfl

theorem Tree.touchAll_keeps {P : Tree K E → Prop} (h : ∀ t k, P t → P (t.touch k)) (keys : List K) (t : Tree K E) :
    P t → P (t.touchAll keys) :=
  foldl_keeps h keys t

theorem touchAt_eq (key : K) (f : Forest K E) (i : Nat) :
    Forest.touchAt key f i = f.mapAt (Tree.touch key) i :=
  Forest.eq_mapAt (fun _ => rfl) (fun _ _ _ => rfl) (fun _ _ _ _ => rfl) f i

/-- `touch_branch` in the form `path_lift` takes -/
theorem touch_branch_mapAt (key : K) (p : Nat) (kids : Forest K E) :
    (Tree.branch p kids).touch key =
      .branch (mkPid (nodePage p) true) (kids.mapAt (Tree.touch key) (indexOf kids.keys key).1) := by
  rw [Tree.touch, touchAt_eq]

theorem touch_flatten (t : Tree K E) (key : K) : (t.touch key).flatten = t.flatten := by
  induction t using Tree.ind_toList with
  | leaf p es => rfl
  | branch p kids ih =>
    rw [touch_branch_mapAt]
    exact flattenF_mapAt_eq_self _ kids _ ih

theorem touchAt_flatten (key : K) (f : Forest K E) (i : Nat) :
    Tree.flattenF (Forest.touchAt key f i) = Tree.flattenF f := by
  rw [touchAt_eq]
  exact flattenF_mapAt_eq_self _ f i fun e _ => touch_flatten e.2 key

theorem touch_uniform {t : Tree K E} {d : Nat} (h : UniformT d t) (key : K) : UniformT d (t.touch key) :=
  path_lift (touch_branch_mapAt key) (uniform_childCongr _)
    (fun _ _ _ h => by cases h; exact .leaf _ _) t d h

theorem touchAt_uniform (key : K) (f : Forest K E) (i d : Nat) (h : UniformF d f) :
    UniformF d (Forest.touchAt key f i) := by
  rw [touchAt_eq]
  exact mapAt_uniform _ (fun _ _ h => touch_uniform h key) f i d h

theorem touch_tightM {lo : Option K} {t : Tree K E} (h : TightMT lo t) (key : K) :
    TightMT lo (t.touch key) :=
  path_lift (touch_branch_mapAt key) tightM_childCongr.for_touch (fun _ _ _ _ => .leaf _ _ _) t lo h

theorem touch_wfs {lo hi : Option K} {t : Tree K E} (h : WFS lo hi t) (key : K) :
    WFS lo hi (t.touch key) :=
  path_lift (touch_branch_mapAt key) (wfs_childCongr _)
    (fun _ _ _ h => h.repid_leaf _) t (lo, hi) h

theorem touch_neb {t : Tree K E} (h : nebT t = true) (key : K) : nebT (t.touch key) = true :=
  path_lift (touch_branch_mapAt key) (neb_childCongr _) (fun _ _ _ _ => rfl) t () h

end

section
variable {K E : Type} [Ord K] [TransOrd K] [LawfulEqOrd K] [DecidableEq K]

-- the two statements carry the order instances of the property they stand for and do not use them; for a `K`
-- without them: `mapAt_neb` with `touchAt_eq`, and `Tree.touchAll_keeps` with `touch_neb`
set_option linter.unusedSectionVars false in
theorem touchAt_neb_aux (key : K) (f : Forest K E) (i : Nat) (h : nebF f = true) :
    (Forest.touchAt key f i).length = f.length ∧ nebF (Forest.touchAt key f i) = true :=
  touchAt_eq key f i ▸ mapAt_neb _ (fun _ h => touch_neb h key) f i h

set_option linter.unusedSectionVars false in
theorem touchAll_neb (t : Tree K E) (keys : List K) (h : nebT t = true) : nebT (t.touchAll keys) = true :=
  Tree.touchAll_keeps (P := fun t => nebT t = true) (fun _ k h => touch_neb h k) keys t h

end
end Jamm
