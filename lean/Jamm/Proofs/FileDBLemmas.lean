/-
A file accepted by the checker, read as an API-layer database state, has only well-formed trees
(`goodView_allWF`, from `GoodView`, the first conjunct of `checkFile_sound`): every theorem about the tree-based database
(`Proofs/TreeDBLemmas.lean`) applies to what is read from a checked file.  `viewToTDB` maps every leaf value by `itemOf`
(`Tree.mapE`), which keeps keys and hence `WF` (`mapE_wf`) and maps the contents (`Tree.flatten_mapE`).
-/
import Jamm.Model.FileDB
import Jamm.Proofs.CheckFileSound
import Jamm.Proofs.TreeWF
open Std

namespace Jamm

section
variable {K E E' : Type}

mutual
theorem Tree.flatten_mapE (f : E → E') : ∀ t : Tree K E,
    (t.mapE f).flatten = t.flatten.map (fun e => (e.1, f e.2))
  | .leaf p es => by simp only [Tree.mapE, Tree.flatten]
  | .branch p kids => by
    simp only [Tree.mapE, Tree.flatten]
    exact mapE_flattenF_aux f kids
theorem mapE_flattenF_aux (f : E → E') : ∀ ks : Forest K E,
    Tree.flattenF (Forest.mapE f ks) = (Tree.flattenF ks).map (fun e => (e.1, f e.2))
  | .nil => by simp only [Forest.mapE, Tree.flattenF, List.map_nil]
  | .cons k t rest => by
    simp only [Forest.mapE, Tree.flattenF, List.map_append]
    rw [Tree.flatten_mapE f t, mapE_flattenF_aux f rest]
end

end

section
variable {K E E' : Type} [Ord K] [TransOrd K] [LawfulEqOrd K]

-- `Tree.flatten_mapE` with the instance arguments the statement carries; they are not used
set_option linter.unusedSectionVars false in
theorem mapE_flatten (f : E → E') (t : Tree K E) :
    (t.mapE f).flatten = t.flatten.map (fun e => (e.1, f e.2)) :=
  Tree.flatten_mapE f t

end

section
variable {K E E' : Type} [Ord K] [TransOrd K]

theorem mapE_wf (f : E → E') (lo hi : Option K) (t : Tree K E) (h : WF lo hi t) : WF lo hi (t.mapE f) :=
  (wf_induct (P := fun lo hi t => WF lo hi (t.mapE f))
    (Q := fun lo hi k t rest => WFF lo hi k (t.mapE f) (Forest.mapE f rest))
    (leaf := fun _ _ _ _ hs hb => WF.leaf _ _ _ _
      (Spec.sorted_iff_pairwise.2 (List.pairwise_map.2 (Spec.sorted_iff_pairwise.1 hs)))
      (List.forall_mem_map.2 hb))
    (branch := fun _ _ _ _ _ _ _ ih => WF.branch _ _ _ _ _ _ ih)
    (last := fun _ _ _ _ _ ih => WFF.last _ _ _ _ ih)
    (cons := fun _ _ _ _ _ _ _ hk hlo hhi _ _ iht ihr => WFF.cons _ _ _ _ _ _ _ hk hlo hhi iht ihr)).1 lo hi t h

end

/-- `viewToTDB` is by well-founded recursion on the view: it does not unfold by `rfl` or `simp [viewToTDB]` -/
theorem viewToTDB_eq (path : Spec.Path Bytes) (v : BucketView) :
    viewToTDB path v = (path, ⟨v.nextInt, v.tree.mapE itemOf⟩) ::
      v.subs.flatMap (fun s => viewToTDB (path ++ [s.1]) s.2) := by
  rw [viewToTDB]

theorem goodView_allWF (pg : PageStore) {fuel root : Nat} {v : BucketView} (h : GoodView pg fuel root v) :
    ∀ path, TDB.AllWF (viewToTDB path v) := by
  induction fuel generalizing root v with
  | zero => exact absurd h.fuel_pos (Nat.lt_irrefl 0)
  | succ f ih =>
    intro path e he
    rw [viewToTDB_eq] at he
    rcases List.mem_cons.mp he with rfl | he
    · exact mapE_wf itemOf none none v.tree h.wf
    · obtain ⟨s, hs, hes⟩ := List.mem_flatMap.mp he
      obtain ⟨r, _, _, hr, _⟩ := h.subs.mem s hs
      exact ih hr _ e hes

end Jamm
