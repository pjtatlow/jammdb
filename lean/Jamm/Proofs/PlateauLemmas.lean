/-
The plateau of first-fit allocation (C10).  The pigeonhole: if no run of `k` consecutive free pages exists among the
pages `2 .. N-1`, the `n` non-free pages cut the free ones into at most `n+1` maximal runs, each shorter than `k`
(`no_run_bound`); hence the file is extended only while it is still small relative to the non-free (live + pending)
pages.  Along a history: for every `M`, if `max M (K·(n+2)+1)` bounds the page mark before an event it does so after
it, where `K` bounds the requested run lengths and `n` the number of non-free pages seen after each event.
-/
import Jamm.Model.Plateau
import Jamm.Proofs.FreelistLemmas

namespace Jamm

/-- a run of `r` `P`-positions ends just before `a`, and at most `g` positions of `[a, N)` are not in `l`: the `g` gaps
cut `l` into at most `g + 1` runs of at most `m` positions each.  (`g` and `m` instead of `N - a - l.length` and
`k - 1`: truncated subtraction in the context makes every `omega` below several times as slow.) -/
theorem no_run_bound_aux (m N : Nat) (P : Nat → Prop) (hP : ∀ s, ¬ ∀ i, i ≤ m → P (s + i)) (l : List Nat) :
    ∀ a r g : Nat, l.Pairwise (· < ·) → (∀ x ∈ l, a ≤ x ∧ x < N ∧ P x) → r ≤ a →
      (∀ j, j < a → a ≤ j + r → P j) → N ≤ a + l.length + g → l.length + r ≤ m * (g + 1) := by
  have hrm : ∀ a r, r ≤ a → (∀ j, j < a → a ≤ j + r → P j) → r ≤ m := by
    intro a r hra hrun
    obtain ⟨s, rfl⟩ := Nat.exists_eq_add_of_le' hra
    exact Nat.le_of_not_lt fun hc => hP s fun i hi => hrun (s + i) (by omega) (by omega)
  induction l with
  | nil =>
    intro a r g _ _ hra hrun _
    rw [List.length_nil, Nat.zero_add]
    exact Nat.le_trans (hrm a r hra hrun) (Nat.le_mul_of_pos_right m (Nat.succ_pos g))
  | cons h t ih =>
    intro a r g hp hr hra hrun hg
    rw [List.pairwise_cons] at hp
    obtain ⟨hah, hhN, hPh⟩ := hr h (List.mem_cons_self ..)
    have hrt : ∀ x ∈ t, h + 1 ≤ x ∧ x < N ∧ P x := fun x hx =>
      ⟨hp.1 x hx, (hr x (List.mem_cons_of_mem _ hx)).2⟩
    simp only [List.length_cons] at hg ⊢
    by_cases hEq : h = a
    · -- `h = a` continues the run: `r + 1` `P`-positions end just before `h + 1`, no gap is used
      subst hEq
      have := ih (h + 1) (r + 1) g hp.2 hrt (Nat.succ_le_succ hra)
        (fun j hj hjr => if e : j = h then e ▸ hPh else
          hrun j (Nat.lt_of_le_of_ne (Nat.le_of_lt_succ hj) e) (Nat.le_of_succ_le_succ hjr))
        (by omega)
      omega
    · -- a gap before `h`: the run of `r` is closed, `h` opens a new one, one gap is used up
      have hlen := pairwise_lt_length_le hp.2 (fun x hx => ⟨(hrt x hx).1, (hrt x hx).2.1⟩) hhN
      obtain ⟨g', rfl⟩ := Nat.exists_eq_add_one_of_ne_zero (show g ≠ 0 by omega)
      have := ih (h + 1) 1 g' hp.2 hrt (Nat.succ_le_succ (Nat.zero_le h))
        (fun j hj hjr => Nat.le_antisymm (Nat.le_of_lt_succ hj) (Nat.le_of_succ_le_succ hjr) ▸ hPh) (by omega)
      have := hrm a r hra hrun
      rw [Nat.mul_succ]
      omega

theorem no_run_bound {m N g : Nat} {free : List Nat} (hasc : free.Pairwise (· < ·))
    (hr : ∀ p ∈ free, 2 ≤ p ∧ p < N) (hg : N ≤ 2 + free.length + g) (h : hasRun (m + 1) free = false) :
    free.length ≤ m * (g + 1) := by
  have hP : ∀ s, ¬ ∀ i, i ≤ m → (s + i) ∈ free := fun s hall =>
    Bool.eq_false_iff.1 h ((hasRun_iff _ _).2 ⟨s, hall 0 (Nat.zero_le m), fun i hi => hall i (Nat.le_of_lt_succ hi)⟩)
  exact no_run_bound_aux m N (· ∈ free) hP free 2 0 g hasc (fun x hx => ⟨(hr x hx).1, (hr x hx).2, hx⟩)
    (Nat.zero_le 2) (fun j hj hjr => absurd hjr (Nat.not_le.2 hj)) hg

theorem extension_small (t : TxFL) (m : Nat) (ha : t.fl.free.Pairwise (· < ·))
    (hr : ∀ p ∈ t.fl.free, 2 ≤ p ∧ p < t.numPages) (hN : 2 ≤ t.numPages)
    (hnone : FL.findRun (m + 1) t.fl.free 0 0 = none) : t.numPages ≤ m * (t.nonFree + 1) + t.nonFree + 2 := by
  have hlen := pairwise_lt_length_le ha hr hN
  have hN' : t.numPages = 2 + t.fl.free.length + t.nonFree := by
    rw [TxFL.nonFree, Nat.sub_sub]
    exact (Nat.add_sub_cancel' hlen).symm
  have hfree := no_run_bound ha hr (Nat.le_of_eq hN')
    (findRun_complete (Nat.succ_pos m) ha (fun p hp => (hr p hp).1) hnone)
  -- the pay-off of the pigeonhole: `numPages = 2 + |free| + nonFree` (`hN'`) and `|free| ≤ m·(nonFree + 1)` (`hfree`)
  omega

theorem plateau_bound_mono (M K : Nat) {a b : Nat} (h : a ≤ b) :
    max M (K * (a + 2) + 1) ≤ max M (K * (b + 2) + 1) :=
  Nat.max_le.2 ⟨Nat.le_max_left .., Nat.le_trans
    (Nat.succ_le_succ (Nat.mul_le_mul_left K (Nat.add_le_add_right h 2))) (Nat.le_max_right ..)⟩

theorem nonFree_extend (t : TxFL) (k : Nat) (h : 2 + t.fl.free.length ≤ t.numPages) :
    ({ t with numPages := t.numPages + k } : TxFL).nonFree = t.nonFree + k := by
  simp only [TxFL.nonFree, Nat.sub_sub]
  exact Nat.sub_add_comm h

theorem plateau_arith {N m K nf : Nat} (hK : m + 1 ≤ K) (hs : N ≤ m * (nf + 1) + nf + 2) :
    N + (m + 1) ≤ K * (nf + (m + 1) + 2) + 1 :=
  calc N + (m + 1) ≤ m * (nf + 1) + nf + 2 + (m + 1) := Nat.add_le_add_right hs _
    _ = (m + 1) * (nf + 2) + 1 := by rw [Nat.succ_mul, Nat.mul_succ m (nf + 1)]; omega
    _ ≤ K * (nf + (m + 1) + 2) + 1 :=
      Nat.succ_le_succ (Nat.mul_le_mul hK (Nat.add_le_add_right (Nat.le_add_right nf (m + 1)) 2))

/-- stated against the non-free count *after* the allocation: an extension happens only while the file is small
(`no_run_bound`), and a reuse does not move the mark while the non-free count does not decrease -/
theorem plateau_allocate (t : TxFL) (k K M : Nat) (hk : 0 < k) (hkK : k ≤ K)
    (ha : t.fl.free.Pairwise (· < ·)) (hr : ∀ p ∈ t.fl.free, 2 ≤ p ∧ p < t.numPages) (hN : 2 ≤ t.numPages)
    (hb : t.numPages ≤ max M (K * (t.nonFree + 2) + 1)) :
    (t.allocate k).2.numPages ≤ max M (K * ((t.allocate k).2.nonFree + 2) + 1) := by
  rcases t.allocate_cases k with ⟨hnone, e⟩ | ⟨s, _, e⟩ <;> rw [e]
  · obtain ⟨m, rfl⟩ := Nat.exists_eq_add_one_of_ne_zero (Nat.ne_of_gt hk)
    rw [nonFree_extend t (m + 1) (pairwise_lt_length_le ha hr hN)]
    exact Nat.le_trans (plateau_arith hkK (extension_small t m ha hr hN hnone)) (Nat.le_max_right ..)
  · exact Nat.le_trans hb (plateau_bound_mono M K (Nat.sub_le_sub_left (List.length_filter_le _ _) _))

theorem plateau_commit {s : Sys} (hi : s.Inv) (B : Nat) (w : WriterTx) (K : Nat)
    (hreq : ∀ k ∈ w.requests, 0 < k ∧ k ≤ K) :
    (s.commitWith B w).numPages ≤ max s.numPages (K * ((s.commitWith B w).nonFree + 2) + 1) := by
  have hF := fun p hp => release_free_range hi B (p := p) hp
  refine ((s.txfl B).run_ind w (Q := fun st => st.2.numPages ≤ max s.numPages (K * (st.2.nonFree + 2) + 1))
    (pairwise_lt_nodup (release_free_pairwise _ B hi.ascFree)) (Nat.le_max_left _ _) ?_).2
  intro st k hk hA hb
  rw [allocStep_snd]
  refine plateau_allocate st.2 k K _ (hreq k hk).1 (hreq k hk).2
    ((release_free_pairwise _ B hi.ascFree).sublist hA.sub) ?_ (Nat.le_trans hi.np hA.mono) hb
  intro p hp
  have := hF p (hA.sub.subset hp)
  exact ⟨this.1, Nat.lt_of_lt_of_le this.2 hA.mono⟩

theorem plateau_step {s : Sys} (hi : s.Inv) {ev : Ev} (hc : s.clientOkB ev = true) {K n M : Nat}
    (hK : ev.requestsLe K = true) (hn : (s.step ev).nonFree ≤ n) (hb : s.numPages ≤ max M (K * (n + 2) + 1)) :
    (s.step ev).numPages ≤ max M (K * (n + 2) + 1) := by
  cases ev with
  | commitW w =>
    rw [clientOkB_commitW_iff] at hc
    rw [Sys.step_commitW_eq] at hn ⊢
    simp only [Ev.requestsLe, List.all_eq_true, decide_eq_true_eq] at hK
    exact Nat.le_trans (plateau_commit hi s.bound w K (fun k hk => ⟨hc.2.2 k hk, hK k hk⟩))
      (Nat.max_le.2 ⟨hb, Nat.le_trans (Nat.le_max_right M _) (plateau_bound_mono M K hn)⟩)
  | _ => exact hb

theorem plateau_run {s s' : Sys} {evs : List Ev} {K n M : Nat} (hi : s.Inv) (h : s.runEvs evs = some s')
    (hK : requestsLe K evs = true) (hn : s.nonFreeLe n evs = true)
    (hb : s.numPages ≤ max M (K * (n + 2) + 1)) : s'.numPages ≤ max M (K * (n + 2) + 1) := by
  refine Sys.runEvs_induct_inv (motive := fun s evs => requestsLe K evs = true → s.nonFreeLe n evs = true →
    s.numPages ≤ max M (K * (n + 2) + 1) → s'.numPages ≤ max M (K * (n + 2) + 1))
    (fun _ _ _ hb => hb) ?_ hi h hK hn hb
  intro s ev rest hi hc ih hK hn hb
  simp only [requestsLe, Sys.nonFreeLe, Bool.and_eq_true, decide_eq_true_eq] at hK hn
  exact ih hK.2 hn.2 (plateau_step hi hc hK.1 hn.1 hb)

end Jamm
