/-
Histories of the sequential release protocol (`Sys.runEvs`): every protocol-abiding event keeps the accounting
invariant, and no page is lost: every page below the high-water mark is reachable from the current snapshot, free, or
pending (`Sys.Covers`), by the disjointness part of the invariant in exactly one of the three.
-/
import Jamm.Proofs.FreelistSys

namespace Jamm

theorem Sys.Inv.step {s : Sys} (hi : s.Inv) {ev : Ev} (hc : s.clientOkB ev = true) : (s.step ev).Inv := by
  cases ev with
  | beginR =>
    -- `beginR` touches `readers` only: every other field is the old one up to `rfl`
    refine { hi with rd := fun r hr => ?_ }
    rcases List.mem_append.1 hr with hr | hr
    · exact hi.rd r hr
    · rw [List.mem_singleton] at hr
      subst hr
      exact ⟨Nat.le_refl _, fun p hp => Or.inl hp⟩
  | endR i => exact { hi with rd := fun r hr => hi.rd r ((List.eraseIdx_sublist _ _).subset hr) }
  | dropW w => exact hi
  | commitW w =>
    rw [clientOkB_commitW_iff] at hc
    rw [Sys.step_commitW_eq]
    exact hi.commitWith s.bound s.admits_bound w hc.1 hc.2.1

/-- the state a history ends in, `none` if one of its events is not one a protocol-abiding client makes -/
def Sys.runEvs (s : Sys) : List Ev → Option Sys
  | [] => some s
  | ev :: rest => if s.clientOkB ev then (s.step ev).runEvs rest else none

theorem Sys.runEvs_induct {motive : Sys → List Ev → Prop} {s' : Sys} (nil : motive s' [])
    (cons : ∀ (s : Sys) (ev : Ev) (rest : List Ev), s.clientOkB ev = true →
      motive (s.step ev) rest → motive s (ev :: rest))
    {s : Sys} {evs : List Ev} (h : s.runEvs evs = some s') : motive s evs := by
  fun_induction Sys.runEvs s evs with
  | case1 s => cases h; exact nil
  | case2 s ev rest hc ih => exact cons s ev rest hc (ih h)
  | case3 s ev rest hc => cases h

/-- further hypotheses about the history go into the motive as implications (`motive := fun s evs => hyp s evs → goal`,
as in `Sys.Covers.run`) -/
theorem Sys.runEvs_induct_inv {motive : Sys → List Ev → Prop} {s' : Sys}
    (nil : s'.Inv → motive s' [])
    (cons : ∀ (s : Sys) (ev : Ev) (rest : List Ev), s.Inv → s.clientOkB ev = true →
      motive (s.step ev) rest → motive s (ev :: rest))
    {s : Sys} {evs : List Ev} (hi : s.Inv) (h : s.runEvs evs = some s') : motive s evs :=
  Sys.runEvs_induct (motive := fun s evs => s.Inv → motive s evs) nil
    (fun s ev rest hc ih hi => cons s ev rest hi hc (ih (hi.step hc))) h hi

theorem Sys.Inv.run {s s' : Sys} {evs : List Ev} (hi : s.Inv) (h : s.runEvs evs = some s') : s'.Inv :=
  Sys.runEvs_induct_inv (motive := fun _ _ => s'.Inv) id (fun _ _ _ _ _ ih => ih) hi h

theorem inv_run (s : Sys) (evs : List Ev) (s' : Sys) (hi : s.invB = true) (h : s.runEvs evs = some s') :
    s'.invB = true :=
  (invB_iff _).2 (((invB_iff _).1 hi).run h)

theorem Sys.Covers.commitWith {s : Sys} (h : s.Covers) (hi : s.Inv) (B : Nat) (w : WriterTx)
    (hsub : ∀ p ∈ w.freed, p ∈ s.cur.reach) (hnd : w.freed.Nodup) : (s.commitWith B w).Covers :=
  (Sys.pages_perm hi (hi.run_ainv B w).mono (s.commitWith_pages hi B w hsub hnd)).2.2 h

/-- the initial file (two header pages, free-list page, root leaf) -/
theorem covers_init :
    ({ cur := { txId := 0, reach := [2, 3] }, shared := {}, readers := [], numPages := 4 } : Sys).Covers := by
  intro p h2 hp
  left
  have hp' : p < 4 := hp
  simp only [List.mem_cons, List.not_mem_nil, or_false]
  omega

theorem Sys.Covers.step {s : Sys} (h : s.Covers) (hi : s.Inv) {ev : Ev} (hc : s.clientOkB ev = true) :
    (s.step ev).Covers := by
  cases ev with
  | commitW w =>
    rw [clientOkB_commitW_iff] at hc
    rw [Sys.step_commitW_eq]
    exact h.commitWith hi s.bound w hc.1 hc.2.1
  | _ => exact h

theorem Sys.Covers.run {s s' : Sys} {evs : List Ev} (hcov : s.Covers) (hi : s.Inv)
    (h : s.runEvs evs = some s') : s'.Covers :=
  Sys.runEvs_induct_inv (motive := fun s _ => s.Covers → s'.Covers) (fun _ h => h)
    (fun _ _ _ hi hc ih hcov => ih (hcov.step hi hc)) hi h hcov

theorem covers_run (s : Sys) (evs : List Ev) (s' : Sys) (hi : s.invB = true) (hcov : s.Covers)
    (h : s.runEvs evs = some s') : s'.Covers :=
  hcov.run ((invB_iff s).1 hi) h

theorem Sys.page_in_exactly_one (s : Sys) (hi : s.invB = true) (hcov : s.Covers) (p : Nat) (h2 : 2 ≤ p)
    (hp : p < s.numPages) :
    (p ∈ s.cur.reach ∧ p ∉ s.shared.free ∧ p ∉ s.shared.pendingPages) ∨
    (p ∉ s.cur.reach ∧ p ∈ s.shared.free ∧ p ∉ s.shared.pendingPages) ∨
    (p ∉ s.cur.reach ∧ p ∉ s.shared.free ∧ p ∈ s.shared.pendingPages) := by
  rw [invB_iff] at hi
  rcases hcov p h2 hp with hr | hf | hq
  · exact Or.inl ⟨hr, hi.djRF p hr, hi.djRP p hr⟩
  · exact Or.inr (Or.inl ⟨fun hr => hi.djRF p hr hf, hf, hi.djFP p hf⟩)
  · exact Or.inr (Or.inr ⟨fun hr => hi.djRP p hr hq, fun hf => hi.djFP p hf hq, hq⟩)

end Jamm
