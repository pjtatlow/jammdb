/-
The layout facts as propositions, and the page header as a list of writes.

`Layout.WF` is the `Prop` form of the `Bool` `Layout.WFEnc`, `Layout.WFM` that of `Layout.WFMeta`: the `Bool` is what
`decide` runs on the regenerated table, the structure is what `omega` can be fed from field by field.  (`Jamm.WF` is
something else: well-formedness of a tree.)
-/
import Jamm.Model.EncodeMeta
import Jamm.Proofs.Writes

namespace Jamm

-- fields in the order of the conjuncts of `Layout.WFEnc`: `Layout.WF.of` matches them by position
structure Layout.WF (L : Layout) : Prop where
  pg1 : L.pgId + 8 ≤ L.pgType
  pg2 : L.pgType + 1 ≤ L.pgCount
  pg3 : L.pgCount + 8 ≤ L.pgOverflow
  pg4 : L.pgOverflow + 8 ≤ L.pgPtr
  pg5 : L.pgPtr ≤ L.pageSize
  lf1 : L.leafType + 1 ≤ L.leafPos
  lf2 : L.leafPos + 8 ≤ L.leafKsize
  lf3 : L.leafKsize + 8 ≤ L.leafVsize
  lf4 : L.leafVsize + 8 ≤ L.leafSize
  br1 : L.branchPage + 8 ≤ L.branchKsize
  br2 : L.branchKsize + 8 ≤ L.branchPos
  br3 : L.branchPos + 8 ≤ L.branchSize
  bm1 : L.bmRoot + 8 ≤ L.bmNextInt
  bm2 : L.bmNextInt + 8 ≤ L.bmSize
  ed : L.elemData < 256
  eb : L.elemBucket < 256
  edb : L.elemData ≠ L.elemBucket
  tl : L.typeLeaf < 256
  tb : L.typeBranch < 256
  tm : L.typeMeta < 256
  tf : L.typeFreelist < 256
  tlm : L.typeLeaf ≠ L.typeMeta
  tlb : L.typeLeaf ≠ L.typeBranch
  tbm : L.typeBranch ≠ L.typeMeta

theorem Layout.WF.of (L : Layout) (hL : L.WFEnc = true) : L.WF := by
  obtain ⟨h1, h2, h3, h4, h5, h6, h7, h8, h9, h10, h11, h12, h13, h14, h15, h16, h17, h18, h19, h20,
    h21, h22, h23, h24⟩ := of_decide_eq_true hL
  exact ⟨h1, h2, h3, h4, h5, h6, h7, h8, h9, h10, h11, h12, h13, h14, h15, h16, h17, h18, h19, h20,
    h21, h22, h23, h24⟩

-- fields in the order of the conjuncts of `Layout.WFMeta`: `Layout.WFM.of` matches them by position
structure Layout.WFM (L : Layout) : Prop where
  pg1 : L.pgId + 8 ≤ L.pgType
  pg2 : L.pgType + 1 ≤ L.pgCount
  pg3 : L.pgCount + 8 ≤ L.pgOverflow
  pg4 : L.pgOverflow + 8 ≤ L.pgPtr
  m1 : L.mMetaPage + L.mMetaPageSz ≤ L.mMagic
  m2 : L.mMagic + L.mMagicSz ≤ L.mVersion
  m3 : L.mVersion + L.mVersionSz ≤ L.mPagesize
  m4 : L.mPagesize + 8 ≤ L.mRoot
  m5 : L.bmRoot + 8 ≤ L.bmNextInt
  m6 : L.bmNextInt + 8 ≤ L.bmSize
  m7 : L.mRoot + L.bmSize ≤ L.mNumPages
  m8 : L.mNumPages + 8 ≤ L.mFreelist
  m9 : L.mFreelist + 8 ≤ L.mTxId
  m10 : L.mTxId + 8 ≤ L.mHash
  m11 : L.mHash + 8 ≤ L.metaSize
  tm : L.typeMeta < 256
  tf : L.typeFreelist < 256
  tfm : L.typeFreelist ≠ L.typeMeta
  tfb : L.typeFreelist ≠ L.typeBranch
  tfl : L.typeFreelist ≠ L.typeLeaf
  pg5 : L.pgPtr ≤ L.pageSize

theorem Layout.WFM.of (L : Layout) (hL : L.WFMeta = true) : L.WFM := by
  obtain ⟨h1, h2, h3, h4, h5, h6, h7, h8, h9, h10, h11, h12, h13, h14, h15, h16, h17, h18, h19, h20,
    h21⟩ := of_decide_eq_true hL
  exact ⟨h1, h2, h3, h4, h5, h6, h7, h8, h9, h10, h11, h12, h13, h14, h15, h16, h17, h18, h19, h20,
    h21⟩

section
variable (L : Layout)

/-- `pg1`–`pg4` are fields of both `Layout.WF` and `Layout.WFM` -/
theorem headerWrites_asc (pg1 : L.pgId + 8 ≤ L.pgType) (pg2 : L.pgType + 1 ≤ L.pgCount)
    (pg3 : L.pgCount + 8 ≤ L.pgOverflow) (pg4 : L.pgOverflow + 8 ≤ L.pgPtr) (base id ty count overflow : Nat) :
    Asc base (headerWrites L base id ty count overflow) (base + L.pgPtr) := by
  simp only [headerWrites, Asc, leBytes_length, List.length_cons, List.length_nil]
  exact ⟨Nat.le_add_right _ _, asc_link base pg1, asc_link base pg2, asc_link base pg3, asc_link base pg4⟩

theorem header_agree (pg1 : L.pgId + 8 ≤ L.pgType) (pg2 : L.pgType + 1 ≤ L.pgCount)
    (pg3 : L.pgCount + 8 ≤ L.pgOverflow) (pg4 : L.pgOverflow + 8 ≤ L.pgPtr) {s s' : Src} {base hi : Nat}
    (h : Src.AgreeOn s s' base hi) (hh : base + L.pgPtr ≤ hi) :
    s'.le (base + L.pgId) 8 = s.le (base + L.pgId) 8 ∧ (s'.get (base + L.pgType)).toNat = (s.get (base + L.pgType)).toNat ∧
    s'.le (base + L.pgCount) 8 = s.le (base + L.pgCount) 8 ∧ s'.le (base + L.pgOverflow) 8 = s.le (base + L.pgOverflow) 8 := by
  have F := (headerWrites_asc L pg1 pg2 pg3 pg4 base 0 0 0 0).le_agree (h.mono (Nat.le_refl _) hh)
  simpa only [headerWrites, List.forall_mem_cons, List.not_mem_nil, false_imp_iff, implies_true, and_true,
    leBytes_length, List.length_singleton, Src.le_one] using F

structure HeaderReads (s : Src) (base id ty count overflow : Nat) : Prop where
  ty : (s.get (base + L.pgType)).toNat = ty
  id : s.le (base + L.pgId) 8 = id
  count : s.le (base + L.pgCount) 8 = count
  overflow : s.le (base + L.pgOverflow) 8 = overflow

theorem header_of_hasAt {s : Src} {base id ty count overflow : Nat}
    (H : ∀ w ∈ headerWrites L base id ty count overflow, s.HasAt w.1 w.2)
    (hid : id < 2 ^ 64) (hty : ty < 256) (hc : count < 2 ^ 64) (ho : overflow < 2 ^ 64) :
    HeaderReads L s base id ty count overflow := by
  simp only [headerWrites, List.forall_mem_cons, List.not_mem_nil, false_imp_iff, implies_true, and_true] at H
  obtain ⟨B1, B2, B3, B4⟩ := H
  exact ⟨B2.byte hty, B1.le8 hid, B3.le8 hc, B4.le8 ho⟩

theorem page_le_run (o ps : Nat) : ps ≤ (o + 1) * ps := Nat.le_mul_of_pos_left _ (Nat.succ_pos o)

theorem pageWrites_spec (pg1 : L.pgId + 8 ≤ L.pgType) (pg2 : L.pgType + 1 ≤ L.pgCount)
    (pg3 : L.pgCount + 8 ≤ L.pgOverflow) (pg4 : L.pgOverflow + 8 ≤ L.pgPtr) {base id ty count overflow size : Nat}
    {body : List (Nat × List UInt8)} (hp : body.Pairwise WDisj)
    (hr : ∀ w ∈ body, base + L.pgPtr ≤ w.1 ∧ w.1 + w.2.length ≤ base + size) (hs : L.pgPtr ≤ size) :
    (headerWrites L base id ty count overflow ++ body).Pairwise WDisj ∧
    ∀ w ∈ headerWrites L base id ty count overflow ++ body, base ≤ w.1 ∧ w.1 + w.2.length ≤ base + size := by
  have hA := headerWrites_asc L pg1 pg2 pg3 pg4 base id ty count overflow
  refine ⟨List.pairwise_append.2 ⟨hA.pairwise, hp, fun x hx y hy =>
    Or.inl (Nat.le_trans (hA.range x hx).2 (hr y hy).1)⟩, fun w hw => ?_⟩
  rcases List.mem_append.1 hw with hw | hw
  · have := hA.range w hw; omega
  · have := hr w hw; omega

end
end Jamm
