/-
`indexOf` on strictly ascending keys, through `countBelow` (the number of keys below the searched one = its insertion
point); `KeysSorted` and `countBelow` occur in the statements of C08.  `indexOf` on `k :: k' :: rest` by comparison with
`k'` (`indexOf_cons_cons_lt` / `_ge`) is how a branch routes; `lookup_leaf` is the leaf case of `lookup_spec`.
-/
import Jamm.Model.Tree
import Jamm.Proofs.SpecLemmas
open Std

namespace Jamm

section
variable {K : Type} [Ord K]

def KeysSorted : List K → Prop
  | [] => True
  | [_] => True
  | a :: b :: rest => klt a b = true ∧ KeysSorted (b :: rest)

def countBelow (keys : List K) (key : K) : Nat := (keys.takeWhile (fun a => klt a key)).length

theorem indexOf_def (keys : List K) (key : K) :
    indexOf keys key =
      match keys[countBelow keys key]? with
      | some a => if compare a key == .eq then (countBelow keys key, true)
                  else (countBelow keys key - 1, false)
      | none => (countBelow keys key - 1, false) := rfl

theorem countBelow_nil (key : K) : countBelow ([] : List K) key = 0 := rfl

theorem countBelow_cons (a : K) (rest : List K) (key : K) :
    countBelow (a :: rest) key = if klt a key = true then countBelow rest key + 1 else 0 := by
  unfold countBelow
  rw [List.takeWhile_cons]
  split <;> simp

theorem countBelow_le (keys : List K) (key : K) : countBelow keys key ≤ keys.length :=
  (List.takeWhile_sublist _).length_le

theorem getElem?_countBelow (keys : List K) (key : K) :
    keys[countBelow keys key]? = (keys.dropWhile (fun a => klt a key)).head? := by
  conv => lhs; arg 1; rw [← List.takeWhile_append_dropWhile (p := fun a => klt a key) (l := keys)]
  rw [countBelow, List.getElem?_append_right (Nat.le_refl _), Nat.sub_self, List.head?_eq_getElem?]

theorem split_at_countBelow {E : Type} (key : K) (es : List (K × E)) :
    ∃ tw dw, es = tw ++ dw ∧ (∀ a ∈ tw, klt a.1 key = true) ∧
      (∀ d dw', dw = d :: dw' → klt d.1 key = false) ∧
      countBelow (es.map (·.1)) key = tw.length := by
  refine ⟨es.takeWhile (fun a => klt a.1 key), es.dropWhile (fun a => klt a.1 key),
    List.takeWhile_append_dropWhile.symm, fun a => List.all_eq_true.mp List.all_takeWhile a, ?_, ?_⟩
  · intro d dw' h
    have := List.head?_dropWhile_not (fun a => klt a.1 key) es
    rwa [h] at this
  · rw [countBelow, List.takeWhile_map, List.length_map]; rfl

theorem indexOf_lt (keys : List K) (key : K) (h : keys ≠ []) : (indexOf keys key).1 < keys.length := by
  have hl : 0 < keys.length := List.length_pos_iff.mpr h
  have hc := countBelow_le keys key
  rw [indexOf_def]
  cases hg : keys[countBelow keys key]? with
  | none => simp only; omega
  | some a =>
    have : countBelow keys key < keys.length := (List.getElem?_eq_some_iff.mp hg).1
    simp only
    split
    · exact this
    · simp only; omega

variable [TransOrd K] [LawfulEqOrd K]

section
omit [LawfulEqOrd K]

theorem keysSorted_iff_pairwise :
    ∀ {l : List K}, KeysSorted l ↔ l.Pairwise (fun a b => klt a b = true)
  | [] => ⟨fun _ => .nil, fun _ => trivial⟩
  | [_] => ⟨fun _ => List.pairwise_singleton _ _, fun _ => trivial⟩
  | a :: b :: rest => by
    rw [pairwise_cons_cons (R := fun a b => klt a b = true) klt_trans, KeysSorted,
      keysSorted_iff_pairwise]

theorem keysSorted_cons {a : K} {l : List K} :
    KeysSorted (a :: l) ↔ (∀ b ∈ l, klt a b = true) ∧ KeysSorted l := by
  rw [keysSorted_iff_pairwise, keysSorted_iff_pairwise, List.pairwise_cons]

theorem keysSorted_map_fst {α : Type} (es : List (K × α)) (h : Spec.Sorted es) : KeysSorted (es.map (·.1)) :=
  keysSorted_iff_pairwise.mpr (List.pairwise_map.mpr (Spec.sorted_iff_pairwise.mp h))

end

theorem countBelow_of_getElem? (keys : List K) (key : K) (hs : KeysSorted keys) (i : Nat)
    (h : keys[i]? = some key) : countBelow keys key = i := by
  induction keys generalizing i with
  | nil => simp at h
  | cons a rest ih =>
    rw [keysSorted_cons] at hs
    cases i with
    | zero =>
      simp at h
      subst h
      simp [countBelow_cons, klt_irrefl]
    | succ i =>
      simp at h
      have hmem : key ∈ rest := List.mem_of_getElem? h
      rw [countBelow_cons, if_pos (hs.1 key hmem), ih hs.2 i h]

theorem indexOf_of_getElem? (keys : List K) (key : K) (hs : KeysSorted keys) (i : Nat) (h : keys[i]? = some key) :
    indexOf keys key = (i, true) := by
  have hc := countBelow_of_getElem? keys key hs i h
  rw [indexOf_def, hc, h]
  simp [ReflCmp.compare_self]

omit [TransOrd K] in
/-- the slot before the insertion point of an absent key: the `saturating_sub(1)` of `page_node.rs:80` -/
theorem indexOf_not_mem (keys : List K) (key : K) (h : key ∉ keys) :
    indexOf keys key = (countBelow keys key - 1, false) := by
  rw [indexOf_def]
  split
  · rename_i a ha
    have hne : ¬ (compare a key = .eq) := fun he => h (compare_eq_iff_eq.mp he ▸ List.mem_of_getElem? ha)
    simp [hne]
  · rfl

omit [TransOrd K] [LawfulEqOrd K] in
theorem indexOf_single (k key : K) : (indexOf [k] key).1 = 0 :=
  Nat.lt_one_iff.mp (indexOf_lt [k] key (List.cons_ne_nil _ _))

theorem indexOf_cons_cons_lt (k k' : K) (rest : List K) (key : K)
    (h : klt key k' = true) : (indexOf (k :: k' :: rest) key).1 = 0 := by
  have h' : klt k' key = false := klt_asymm h
  have hne : ¬ (compare k' key = .eq) := fun he => klt_ne h (compare_eq_iff_eq.mp he).symm
  rw [indexOf_def, countBelow_cons, countBelow_cons, h']
  -- if `k < key` then `countBelow = 1`, `keys[1] = k' ≠ key`, result `1 - 1`; otherwise `countBelow = 0`
  by_cases hk : klt k key = true
  · simp [hk, hne]
  · simp only [hk, Bool.false_eq_true, if_false, List.getElem?_cons_zero]
    split <;> rfl

theorem indexOf_cons_cons_ge (k k' : K) (rest : List K) (key : K) (hk : klt k k' = true)
    (h : klt key k' = false) :
    (indexOf (k :: k' :: rest) key).1 = (indexOf (k' :: rest) key).1 + 1 := by
  have hkk : klt k key = true := klt_of_klt_of_kle hk (kle_of_not_klt h)
  rw [indexOf_def, indexOf_def, countBelow_cons k, if_pos hkk, List.getElem?_cons_succ, countBelow_cons k']
  rcases klt_trichotomy k' key with h1 | h1 | h1
  · -- `k'` is counted on both sides, so neither `- 1` saturates
    rw [if_pos h1]
    cases (k' :: rest)[countBelow rest key + 1]? with
    | none => rfl
    | some a =>
      by_cases he : (compare a key == Ordering.eq) = true
      · simp only [he, if_true]
      · simp only [he]; rfl
  · subst h1
    simp [klt_irrefl, ReflCmp.compare_self]
  · rw [h] at h1; exact absurd h1 Bool.false_ne_true

variable [DecidableEq K] {E : Type}

theorem lookup_leaf (p : Nat) (es : List (K × E)) (hs : Spec.Sorted es) (key : K) :
    (Tree.leaf p es).lookup key = (Spec.lookup key es).map (fun e => (key, e)) := by
  have hks := keysSorted_map_fst es hs
  unfold Tree.lookup
  by_cases hmem : key ∈ es.map (·.1)
  · obtain ⟨⟨a, x⟩, he, rfl⟩ := List.mem_map.mp hmem
    obtain ⟨i, hi⟩ := List.getElem?_of_mem he
    rw [indexOf_of_getElem? _ a hks i (by rw [List.getElem?_map, hi]; rfl), Spec.lookup_of_mem hs he]
    exact hi
  · rw [indexOf_not_mem _ key hmem, Spec.lookup_none_of_not_mem hmem]
    rfl

end

section
set_option linter.unusedSectionVars false
variable {K E : Type} [Ord K] [TransOrd K] [LawfulEqOrd K] [DecidableEq K]

/-- `countBelow keys key` is the insertion point of `key`: the keys before it are below `key` (`takeWhile`), the key at
it is not.  With `index_absent` (C08): the slot returned for an absent key is the one before that point. -/
theorem not_klt_of_getElem?_countBelow (keys : List K) (key a : K)
    (h : keys[countBelow keys key]? = some a) : klt a key = false := by
  have hhead := List.head?_dropWhile_not (fun a => klt a key) keys
  rw [← getElem?_countBelow, h] at hhead
  simpa using hhead

end

end Jamm
