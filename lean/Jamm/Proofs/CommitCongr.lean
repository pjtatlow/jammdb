/-
An invariant of trees is carried through an operation that rebuilds branches from edited children if it is a
child congruence (`ChildCongr`): it survives the replacement of the children of a branch by children that are
as good.  That is proved once per invariant and used once per operation (`path_lift`, `atBranch_lift`).
`ok p p'` is what the operation may do to the page id of a rebuilt branch.  An invariant is proved a congruence for
the weakest `ok` it can: any `ok` (`uniform_childCongr`, `neb_childCongr`, `wfs_childCongr`, `tight_childCongr`) or
`nodeMat p' = true` (`tightM_childCongr`, `kept_childCongr`); each lift asks for the `ok` of its operation
(`path_lift`: `p' = fp p`; `atBranch_lift`: `p' = p ∧ nodeMat p = true`), and `of_imp` / `for_touch` / `for_atBranch`
go from the one to the other.  A fact that relates the edited tree to the old one (`keptRuns new ⊆ keptRuns old`) is
stated with the old side as the index: `P S t := keptRuns t ⊆ S` (`kept_childCongr`).  `path_lift` serves a property
that does not depend on WHERE the key goes; one that does (`put` and `WFS`: `put_putAt_wfs`) needs an induction of
its own.
-/
import Jamm.Model.Commit
import Jamm.Proofs.ForestLemmas

namespace Jamm

theorem nodeMat_mkPid_true (n : Nat) : nodeMat (mkPid n true) = true := by
  simp [nodeMat, mkPid]

section
variable {K E : Type}

theorem Forest.Rel₂.atBranch {R : Tree K E → Tree K E → Prop} (page : Nat) (fn : Forest K E → Forest K E) :
    ∀ f : Forest K E, (∀ e ∈ f.toList, R e.2 (Tree.atBranch page fn e.2)) → Forest.Rel₂ R f (Forest.atBranch page fn f)
  | .nil, _ => .nil
  | .cons k t r, h =>
    .cons k (h (k, t) List.mem_cons_self) (Forest.Rel₂.atBranch page fn r fun e he => h e (List.mem_cons_of_mem _ he))

/-- the index is what a node inherits from its place in the tree (bounds, depth; `Unit` if nothing); `ok p p'`
says what the replacement may do to the page id -/
def ChildCongr {ι : Type} (P : ι → Tree K E → Prop) (ok : Nat → Nat → Prop) : Prop :=
  ∀ i p p' kids kids', ok p p' → P i (.branch p kids) →
    Forest.Rel₂ (fun a b => ∀ j, P j a → P j b) kids kids' → P i (.branch p' kids')

theorem ChildCongr.of_imp {ι : Type} {P : ι → Tree K E → Prop} {ok ok' : Nat → Nat → Prop}
    (hc : ChildCongr P ok) (h : ∀ p p', ok' p p' → ok p p') : ChildCongr P ok' :=
  fun i p p' kids kids' hp => hc i p p' kids kids' (h p p' hp)

theorem ChildCongr.for_touch {ι : Type} {P : ι → Tree K E → Prop}
    (hc : ChildCongr P fun _ p' => nodeMat p' = true) :
    ChildCongr P fun p p' => p' = mkPid (nodePage p) true :=
  hc.of_imp fun _ _ h => h ▸ nodeMat_mkPid_true _

theorem ChildCongr.for_atBranch {ι : Type} {P : ι → Tree K E → Prop}
    (hc : ChildCongr P fun _ p' => nodeMat p' = true) :
    ChildCongr P fun p p' => p' = p ∧ nodeMat p = true :=
  hc.of_imp fun _ _ h => h.1 ▸ h.2

theorem path_lift {ι : Type} {P : ι → Tree K E → Prop} {g : Tree K E → Tree K E} {fp : Nat → Nat}
    {sel : Forest K E → Nat}
    (hg : ∀ p kids, g (.branch p kids) = .branch (fp p) (kids.mapAt g (sel kids)))
    (hc : ChildCongr P fun p p' => p' = fp p) (hl : ∀ i p es, P i (.leaf p es) → P i (g (.leaf p es)))
    (t : Tree K E) : ∀ i, P i t → P i (g t) := by
  -- `∀ i` inside the motive: the children are needed at their own index
  induction t using Tree.ind_toList with
  | leaf p es => exact fun i => hl i p es
  | branch p kids ih =>
    intro i h
    rw [hg]
    exact hc i p _ kids _ rfl h (Forest.Rel₂.mapAt g (fun _ _ => id) kids _ ih)

theorem atBranch_lift {ι : Type} {P : ι → Tree K E → Prop}
    (hc : ChildCongr P fun p p' => p' = p ∧ nodeMat p = true) (page : Nat) (f : Forest K E → Forest K E)
    (hf : ∀ i p kids, nodeMat p = true → P i (.branch p kids) → P i (.branch p (f kids))) (t : Tree K E) :
    ∀ i, P i t → P i (Tree.atBranch page f t) := by
  induction t using Tree.ind_toList with
  | leaf p es => exact fun _ h => h
  | branch p kids ih =>
    intro i h
    simp only [Tree.atBranch]
    split
    · exact h
    · rename_i hm
      have hm : nodeMat p = true := by simpa using hm
      split
      · exact hf i p kids hm h
      · exact hc i p p kids _ ⟨rfl, hm⟩ h (Forest.Rel₂.atBranch page f kids ih)

end
end Jamm
