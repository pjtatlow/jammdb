/-
One committing writer, for any release bound the readers admit (`Sys.Admits`).  The accounting half of the invariant and
coverage (`Sys.Covers`) follow, for a commit as for a reopen, from one permutation of `Sys.pages` (`Sys.pages_perm`,
`Sys.commitWith_pages`).
-/
import Jamm.Proofs.FreelistProto

namespace Jamm

def Sys.pages (s : Sys) : List Nat := s.cur.reach ++ s.shared.free ++ s.shared.pendingPages

theorem Sys.mem_pages (s : Sys) (p : Nat) :
    p ∈ s.pages ↔ p ∈ s.cur.reach ∨ p ∈ s.shared.free ∨ p ∈ s.shared.pendingPages := by
  simp only [Sys.pages, List.mem_append, or_assoc]

def Sys.Covers (s : Sys) : Prop :=
  ∀ p, 2 ≤ p → p < s.numPages → p ∈ s.cur.reach ∨ p ∈ s.shared.free ∨ p ∈ s.shared.pendingPages

/-- fields in the order of the conjuncts of `Sys.invB`; `nd` is five of them: each of the three lists duplicate free
and the three pairwise disjoint (`Sys.nodup_pages`) -/
structure Sys.Inv (s : Sys) : Prop where
  ascFree : s.shared.free.Pairwise (· < ·)
  ascKeys : (s.shared.pending.map (·.1)).Pairwise (· < ·)
  keysLe : ∀ e ∈ s.shared.pending, e.1 ≤ s.cur.txId
  nd : s.pages.Nodup
  rng : ∀ p ∈ s.pages, 2 ≤ p ∧ p < s.numPages
  rd : ∀ r ∈ s.readers, r.txId ≤ s.cur.txId ∧
    ∀ p ∈ r.reach, p ∈ s.cur.reach ∨ p ∈ s.shared.pendingAbove r.txId
  np : 2 ≤ s.numPages

theorem Sys.nodup_pages (s : Sys) (ha : s.shared.free.Pairwise (· < ·)) :
    s.pages.Nodup ↔ s.cur.reach.Nodup ∧ s.shared.pendingPages.Nodup ∧ (∀ p ∈ s.cur.reach, p ∉ s.shared.free) ∧
      (∀ p ∈ s.cur.reach, p ∉ s.shared.pendingPages) ∧ ∀ p ∈ s.shared.free, p ∉ s.shared.pendingPages := by
  simp only [Sys.pages, List.nodup_append, forall_ne_iff, List.mem_append, pairwise_lt_nodup ha, true_and, or_imp,
    forall_and]
  exact ⟨fun ⟨⟨a, b⟩, c, d, e⟩ => ⟨a, c, b, d, e⟩, fun ⟨a, c, b, d, e⟩ => ⟨⟨a, b⟩, c, d, e⟩⟩

theorem invB_iff (s : Sys) : s.invB = true ↔ s.Inv := by
  unfold Sys.invB
  simp only [Bool.and_eq_true, ascending_iff, nodupB_iff, disjointB_iff, List.all_eq_true,
    decide_eq_true_eq, Bool.or_eq_true, List.contains_iff_mem, and_assoc]
  constructor
  · rintro ⟨h1, h2, h3, h4, h5, h6, h7, h8, h9, h10, h11⟩
    exact ⟨h1, h2, h3, (s.nodup_pages h1).2 ⟨h4, h5, h6, h7, h8⟩, h9, h10, h11⟩
  · rintro ⟨h1, h2, h3, h4, h9, h10, h11⟩
    obtain ⟨h4, h5, h6, h7, h8⟩ := (s.nodup_pages h1).1 h4
    exact ⟨h1, h2, h3, h4, h5, h6, h7, h8, h9, h10, h11⟩

section
variable {s : Sys} (hi : s.Inv)
include hi

theorem Sys.Inv.djRF : ∀ p ∈ s.cur.reach, p ∉ s.shared.free := ((s.nodup_pages hi.ascFree).1 hi.nd).2.2.1

theorem Sys.Inv.djRP : ∀ p ∈ s.cur.reach, p ∉ s.shared.pendingPages := ((s.nodup_pages hi.ascFree).1 hi.nd).2.2.2.1

theorem Sys.Inv.djFP : ∀ p ∈ s.shared.free, p ∉ s.shared.pendingPages := ((s.nodup_pages hi.ascFree).1 hi.nd).2.2.2.2

theorem Sys.Inv.ndReach : s.cur.reach.Nodup := ((s.nodup_pages hi.ascFree).1 hi.nd).1

theorem Sys.Inv.ndFP : (s.shared.free ++ s.shared.pendingPages).Nodup :=
  (List.nodup_append.1 (show (s.cur.reach ++ (s.shared.free ++ s.shared.pendingPages)).Nodup from
    List.append_assoc .. ▸ hi.nd)).2.1

end

/-- pages only move between the three lists, and new ones come from the file's extension: then every page is still
listed once and lies below the mark, and none is lost -/
theorem Sys.pages_perm {s s' : Sys} (hi : s.Inv) (hN : s.numPages ≤ s'.numPages)
    (h : s'.pages.Perm (s.pages ++ List.range' s.numPages (s'.numPages - s.numPages))) :
    s'.pages.Nodup ∧ (∀ p ∈ s'.pages, 2 ≤ p ∧ p < s'.numPages) ∧ (s.Covers → s'.Covers) := by
  have hm : ∀ p, p ∈ s'.pages ↔ p ∈ s.pages ∨ (s.numPages ≤ p ∧ p < s'.numPages) := fun p => by
    rw [h.mem_iff, List.mem_append, List.mem_range'_1, Nat.add_sub_cancel' hN]
  refine ⟨h.nodup_iff.2 (List.nodup_append.2 ⟨hi.nd, List.nodup_range', fun a ha b hb e => ?_⟩),
    fun p hp => ?_, fun hc p h2 hp => ?_⟩
  · have := hi.rng a ha
    have := List.mem_range'_1.1 hb
    omega
  · rcases (hm p).1 hp with h | h
    · exact ⟨(hi.rng p h).1, Nat.lt_of_lt_of_le (hi.rng p h).2 hN⟩
    · exact ⟨Nat.le_trans hi.np h.1, h.2⟩
  · rw [← Sys.mem_pages, hm]
    by_cases hlt : p < s.numPages
    · exact .inl ((s.mem_pages p).2 (hc p h2 hlt))
    · exact .inr ⟨Nat.le_of_not_lt hlt, hp⟩

theorem clientOkB_commitW_iff (s : Sys) (w : WriterTx) :
    s.clientOkB (.commitW w) = true ↔
      (∀ p ∈ w.freed, p ∈ s.cur.reach) ∧ w.freed.Nodup ∧ ∀ n ∈ w.requests, 0 < n := by
  simp only [Sys.clientOkB, Bool.and_eq_true, List.all_eq_true, List.contains_iff_mem, nodupB_iff, decide_eq_true_eq,
    and_assoc]

/-! `beginWriter` picks `s.bound`; with the writer's begin and commit split (`Sys2`) the bound was picked
earlier, so everything below is about an arbitrary `B`. -/

/-- the bound `Sys.beginWriter` releases with (`Tx::new`, tx.rs: the oldest registered reader's id, else the writer's
own) -/
def Sys.bound (s : Sys) : Nat :=
  match (s.readers.map (·.txId)).min? with | some m => m | none => s.cur.txId + 1

def Sys.txfl (s : Sys) (B : Nat) : TxFL :=
  { fl := s.shared.release B, numPages := s.numPages, txId := s.cur.txId + 1 }

def Sys.commitWith (s : Sys) (B : Nat) (w : WriterTx) : Sys :=
  { cur := { txId := s.cur.txId + 1,
             reach := (s.cur.reach.filter (fun p => !w.freed.contains p)) ++ expand ((s.txfl B).run w).1 }
    shared := ((s.txfl B).run w).2.fl
    readers := s.readers
    numPages := ((s.txfl B).run w).2.numPages }

theorem Sys.beginWriter_eq (s : Sys) : s.beginWriter = s.txfl s.bound := rfl

theorem Sys.step_commitW_eq (s : Sys) (w : WriterTx) : s.step (.commitW w) = s.commitWith s.bound w := rfl

theorem Sys.writes_eq (s : Sys) (w : WriterTx) : s.writes w = expand ((s.txfl s.bound).run w).1 := rfl

theorem Sys.commitWith_shared (s : Sys) (B : Nat) (w : WriterTx) :
    (s.commitWith B w).shared = ((s.txfl B).run w).2.fl := rfl

theorem Sys.commitWith_txId (s : Sys) (B : Nat) (w : WriterTx) : (s.commitWith B w).cur.txId = s.cur.txId + 1 := rfl

theorem Sys.bound_le_reader (s : Sys) (r : Snap) (hr : r ∈ s.readers) : s.bound ≤ r.txId := by
  unfold Sys.bound
  split
  · rename_i m hm
    rw [List.min?_eq_some_iff] at hm
    exact hm.2 r.txId (List.mem_map.2 ⟨r, hr, rfl⟩)
  · rename_i hm
    rw [List.min?_eq_none_iff] at hm
    have : r.txId ∈ s.readers.map (·.txId) := List.mem_map.2 ⟨r, hr, rfl⟩
    rw [hm] at this
    simp at this

theorem Sys.bound_of_no_reader (s : Sys) (h : s.readers = []) : s.bound = s.cur.txId + 1 := by
  unfold Sys.bound
  rw [h]
  rfl

/-- `B` may be used as release bound: a registered reader older than `B` holds only pages of the current
snapshot (it registered after the writer chose `B`) -/
def Sys.Admits (s : Sys) (B : Nat) : Prop :=
  ∀ r ∈ s.readers, B ≤ r.txId ∨ ∀ p ∈ r.reach, p ∈ s.cur.reach

theorem Sys.admits_bound (s : Sys) : s.Admits s.bound := fun r hr => Or.inl (s.bound_le_reader r hr)

theorem Sys.Admits.beginR {s : Sys} {B : Nat} (h : s.Admits B) : (s.step .beginR).Admits B := by
  intro r hr
  rcases List.mem_append.1 hr with hr | hr
  · exact h r hr
  · rw [List.mem_singleton] at hr
    subst hr
    exact Or.inr (fun p hp => hp)

theorem Sys.Admits.endR {s : Sys} {B : Nat} (h : s.Admits B) (i : Nat) : (s.step (.endR i)).Admits B :=
  fun r hr => h r ((List.eraseIdx_sublist _ _).subset hr)

section
variable {s : Sys} (hi : s.Inv) (B : Nat) {p : Nat}
include hi

theorem release_free_range (hp : p ∈ (s.shared.release B).free) : 2 ≤ p ∧ p < s.numPages :=
  hi.rng p ((s.mem_pages p).2 (.inr ((release_mem_free_or_pending s.shared B p).1 (Or.inl hp))))

theorem release_free_not_reach (hp : p ∈ (s.shared.release B).free) : p ∉ s.cur.reach := by
  intro hr
  rcases (release_mem_free_or_pending s.shared B p).1 (Or.inl hp) with h | h
  · exact hi.djRF p hr h
  · exact hi.djRP p hr h

theorem release_free_not_pending (hp : p ∈ (s.shared.release B).free) : p ∉ (s.shared.release B).pendingPages :=
  forall_ne_iff.1 (List.nodup_append.1 ((release_perm s.shared B hi.ascFree hi.ndFP).nodup_iff.2 hi.ndFP)).2.2 p hp

theorem reader_page_cases (hB : s.Admits B) {r : Snap} (hr : r ∈ s.readers) (hp : p ∈ r.reach) :
    p ∈ s.cur.reach ∨ p ∈ (s.shared.release B).pendingAbove r.txId := by
  rcases (hi.rd r hr).2 p hp with h | h
  · exact Or.inl h
  · rcases hB r hr with hb | hin
    · obtain ⟨e, he, hlt, hpe⟩ := (mem_pendingAbove _ _ _).1 h
      exact Or.inr ((mem_pendingAbove _ _ _).2
        ⟨e, (mem_release_pending s.shared B hi.ascKeys e).2 ⟨he, Nat.le_trans hb (Nat.le_of_lt hlt)⟩, hlt, hpe⟩)
    · exact Or.inl (hin p hp)

theorem Sys.Inv.run_ainv (w : WriterTx) : AInv (s.shared.release B).free s.numPages ((s.txfl B).run w) :=
  ((s.txfl B).run_ind w (pairwise_lt_nodup (release_free_pairwise _ B hi.ascFree)) (Q := fun _ => True) trivial
    fun _ _ _ _ _ => trivial).1

theorem alloc_not_reach {w : WriterTx} (hp : p ∈ expand ((s.txfl B).run w).1) : p ∉ s.cur.reach := by
  intro hr
  rcases (hi.run_ainv B w).mem_expand hp with h | h
  · exact release_free_not_reach hi B h hr
  · exact Nat.not_le_of_lt (hi.rng p ((s.mem_pages p).2 (.inl hr))).2 h

theorem alloc_not_pending {w : WriterTx} (hp : p ∈ expand ((s.txfl B).run w).1) :
    p ∉ (s.shared.release B).pendingPages := by
  intro hq
  rcases (hi.run_ainv B w).mem_expand hp with h | h
  · exact release_free_not_pending hi B h hq
  · exact Nat.not_le_of_lt (hi.rng p ((s.mem_pages p).2 (.inr (.inr (release_pendingPages_subset _ B p hq))))).2 h

theorem alloc_ge_two {w : WriterTx} (hp : p ∈ expand ((s.txfl B).run w).1) : 2 ≤ p :=
  ((hi.run_ainv B w).mem_expand hp).elim (fun h => (release_free_range hi B h).1) (Nat.le_trans hi.np)

/-- the core of C03 / C04: instantiated with `s.bound` in Props/C03, with the open writer's `B` in `ConcLemmas` -/
theorem reader_pages_not_written (hB : s.Admits B) (w : WriterTx) {r : Snap} (hr : r ∈ s.readers) :
    ∀ p ∈ r.reach, p ∉ expand ((s.txfl B).run w).1 := by
  intro p hp hw
  rcases reader_page_cases hi B hB hr hp with h | h
  · exact alloc_not_reach hi B hw h
  · exact alloc_not_pending hi B hw (pendingAbove_subset h)

end

theorem keep_perm {reach freed : List Nat} (hr : reach.Nodup) (hf : freed.Nodup) (hsub : ∀ p ∈ freed, p ∈ reach) :
    (reach.filter (fun p => !freed.contains p) ++ freed).Perm reach := by
  refine (List.Perm.append_left _ ?_).trans (List.filter_append_perm _ reach)
  refine (List.perm_ext_iff_of_nodup hf (hr.sublist List.filter_sublist)).2 fun a => ?_
  simp only [List.mem_filter, Bool.not_not, List.contains_iff_mem]
  exact ⟨fun h => ⟨hsub a h, h⟩, fun h => h.2⟩

/-- a commit moves pages between the three lists and takes new ones from beyond the mark: freed pages go from
`reach` to pending, released ones from pending to free, allocated ones from free or the extension to `reach` -/
theorem Sys.commitWith_pages {s : Sys} (hi : s.Inv) (B : Nat) (w : WriterTx)
    (hsub : ∀ p ∈ w.freed, p ∈ s.cur.reach) (hnd : w.freed.Nodup) :
    (s.commitWith B w).pages.Perm
      (s.pages ++ List.range' s.numPages ((s.commitWith B w).numPages - s.numPages)) := by
  have h1 := (s.txfl B).run_pendingPages w
  have h2 := (hi.run_ainv B w).perm
  have h3 := release_perm s.shared B hi.ascFree hi.ndFP
  have h4 := keep_perm hi.ndReach hnd hsub
  -- as count equations the four laws simply add up; chained with `Perm.trans` the appends need regrouping at every step
  refine List.perm_iff_count.2 fun p => ?_
  have e1 := h1.count_eq p
  have e2 := h2.count_eq p
  have e3 := h3.count_eq p
  have e4 := h4.count_eq p
  simp only [Sys.commitWith, Sys.pages, Sys.txfl, List.count_append] at e1 e2 e3 e4 ⊢
  omega

theorem Sys.Inv.commitWith {s : Sys} (hi : s.Inv) (B : Nat) (hB : s.Admits B) (w : WriterTx)
    (hsub : ∀ p ∈ w.freed, p ∈ s.cur.reach) (hnd : w.freed.Nodup) : (s.commitWith B w).Inv := by
  have hA := hi.run_ainv B w
  obtain ⟨nd, rng, -⟩ := Sys.pages_perm hi hA.mono (s.commitWith_pages hi B w hsub hnd)
  have hpend : ((s.txfl B).run w).2.fl.pending = ((s.shared.release B).freeAll (s.cur.txId + 1) w.freed).pending :=
    (s.txfl B).run_pending w
  have habove : ∀ r q, q ∈ ((s.txfl B).run w).2.fl.pendingAbove r ↔
      (q ∈ (s.shared.release B).pendingAbove r ∨ (r < s.cur.txId + 1 ∧ q ∈ w.freed)) :=
    (s.txfl B).mem_run_pendingAbove w
  refine { nd := nd, rng := rng, ascFree := ?ascFree, ascKeys := ?ascKeys, keysLe := ?keysLe, rd := ?rd, np := ?np }
  case ascFree => exact (release_free_pairwise _ _ hi.ascFree).sublist hA.sub
  case ascKeys =>
    rw [Sys.commitWith_shared, hpend]
    exact freeAll_keys_pairwise _ _ _ (release_keys_pairwise _ _ hi.ascKeys)
  case keysLe =>
    rw [Sys.commitWith_shared, Sys.commitWith_txId, hpend]
    intro e he
    rcases freeAll_keys (s.cur.txId + 1) w.freed _ e.1 (List.mem_map.2 ⟨e, he, rfl⟩) with h | h
    · omega
    · obtain ⟨e', he', hk⟩ := List.mem_map.1 h
      have := hi.keysLe e' ((mem_release_pending s.shared B hi.ascKeys e').1 he').1
      omega
  case rd =>
    -- a page of a reader's snapshot stays reachable unless this writer frees it, and then it is pending
    -- under the new id, which is above the reader's
    intro r hr
    have hle := (hi.rd r hr).1
    refine ⟨Nat.le_succ_of_le hle, fun p hp => ?_⟩
    rw [Sys.commitWith_shared, habove]
    rcases reader_page_cases hi B hB hr hp with h | h
    · by_cases hf : p ∈ w.freed
      · exact Or.inr (Or.inr ⟨by omega, hf⟩)
      · exact Or.inl (List.mem_append_left _ ((mem_filter_not_freed _ _ _).2 ⟨h, hf⟩))
    · exact Or.inr (Or.inl h)
  case np => exact Nat.le_trans hi.np hA.mono

theorem reader_pages_not_free {s : Sys} (hi : s.Inv) {r : Snap} (hr : r ∈ s.readers) :
    ∀ p ∈ r.reach, p ∉ s.shared.free := by
  intro p hp hf
  rcases (hi.rd r hr).2 p hp with h | h
  · exact hi.djRF p h hf
  · exact hi.djFP p hf (pendingAbove_subset h)

theorem prev_snapshot_not_free {s : Sys} (hi : s.Inv) (w : WriterTx) :
    ∀ p ∈ s.cur.reach, p ∉ (s.step (.commitW w)).shared.free := by
  intro p hp hf
  rw [Sys.step_commitW_eq, Sys.commitWith_shared] at hf
  exact release_free_not_reach hi s.bound ((hi.run_ainv s.bound w).sub.subset hf) hp

set_option linter.unusedVariables false in
/-- a committing writer writes no page of the snapshot it started from (copy-on-write).  `hc` is not used: this
needs the invariant only, not the client discipline -/
theorem commit_is_cow (s : Sys) (w : WriterTx) (hi : s.invB = true)
    (hc : s.clientOkB (.commitW w) = true) :
    disjointB s.cur.reach (s.writes w) = true :=
  (disjointB_iff _ _).2 fun _ hp hw => alloc_not_reach ((invB_iff s).1 hi) s.bound (s.writes_eq w ▸ hw) hp

end Jamm
