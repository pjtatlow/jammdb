/-
The finite facts about the regenerated layout table (`Gen.layout`) and tunables (`Gen.params`) at which the property
files instantiate the byte layer and the commit, each decided once.
-/
import Jamm.Gen.Layout
import Jamm.Gen.Params
import Jamm.Proofs.EncodeHeader

namespace Jamm

theorem genLayout_wfEnc : Layout.WFEnc Gen.layout = true := by decide

theorem genLayout_wfMeta : Layout.WFMeta Gen.layout = true := by decide

theorem genLayout_wf : Gen.layout.WF := Layout.WF.of _ genLayout_wfEnc

theorem genLayout_wfm : Gen.layout.WFM := Layout.WFM.of _ genLayout_wfMeta

/-- a page that holds a header record holds a page header (`size_of::<Page>()` bytes) -/
theorem genLayout_hdr_le {pagesize : Nat} (hrec : Gen.layout.pgPtr + Gen.layout.metaSize ≤ pagesize) :
    Gen.layout.pageSize ≤ pagesize :=
  Nat.le_trans (by decide) hrec

theorem genParams_valid : Gen.params.Valid := by decide

theorem genParams_minKeys : 2 ≤ Gen.params.minKeysPerNode := by decide

end Jamm
