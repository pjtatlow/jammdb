/-
Layer T: the order-free prediction of the overlay equals the tree obtained by applying the transaction's
edits one by one.  Refilling is itself a sequence of `put` edits (`refill_eq_applyOps`), leaf edits keep the branch
structure (`emptied_applyOps`), and a well-formed tree is its branch structure filled with its contents (`wf_fill`), hence determined by the two (`wf_unique`).
-/
import Jamm.Model.Overlay
import Jamm.Proofs.TxLemmas
open Std

namespace Jamm

section structure_only
variable {K E : Type}

theorem Tree.emptied_leaf (p : Nat) (es : List (K × E)) : (Tree.leaf p es).emptied = .leaf p [] := by
  rw [Tree.emptied]

theorem Tree.emptied_branch (p : Nat) (kids : Forest K E) : (Tree.branch p kids).emptied = .branch p kids.emptied := by
  rw [Tree.emptied]

theorem Forest.emptied_nil : (Forest.nil : Forest K E).emptied = .nil := by
  rw [Forest.emptied]

theorem Forest.emptied_cons (k : K) (t : Tree K E) (rest : Forest K E) :
    (Forest.cons k t rest).emptied = .cons k t.emptied rest.emptied := by
  rw [Forest.emptied]

mutual
theorem Tree.emptied_emptied : (t : Tree K E) → t.emptied.emptied = t.emptied
  | .leaf p es => by simp only [Tree.emptied_leaf]
  | .branch p kids => by simp only [Tree.emptied_branch, Forest.emptied_emptied kids]
theorem Forest.emptied_emptied : (f : Forest K E) → f.emptied.emptied = f.emptied
  | .nil => by simp only [Forest.emptied_nil]
  | .cons k t rest => by
    simp only [Forest.emptied_cons, Tree.emptied_emptied t, Forest.emptied_emptied rest]
end

mutual
theorem Tree.flatten_emptied : (t : Tree K E) → t.emptied.flatten = []
  | .leaf p es => by rw [Tree.emptied_leaf, flatten_leaf]
  | .branch p kids => by rw [Tree.emptied_branch, flatten_branch, Forest.flattenF_emptied kids]
theorem Forest.flattenF_emptied : (f : Forest K E) → Tree.flattenF f.emptied = []
  | .nil => by rw [Forest.emptied_nil, flattenF_nil]
  | .cons k t rest => by
    rw [Forest.emptied_cons, flattenF_cons, Tree.flatten_emptied t, Forest.flattenF_emptied rest, List.append_nil]
end

end structure_only

theorem Forest.emptied_mapAt {K E : Type} (g : Tree K E → Tree K E) : ∀ (f : Forest K E) (i : Nat),
    (∀ e ∈ f.toList, (g e.2).emptied = e.2.emptied) → (f.mapAt g i).emptied = f.emptied
  | .nil, _, _ => rfl
  | .cons k t r, 0, h => by
    simp only [Forest.mapAt_cons_zero, Forest.emptied_cons, h (k, t) List.mem_cons_self]
  | .cons k t r, i + 1, h => by
    simp only [Forest.mapAt_cons_succ, Forest.emptied_cons, emptied_mapAt g r i fun e he => h e (List.mem_cons_of_mem _ he)]

theorem Tree.emptied_edit {K E : Type} {φ : List (K × E) → List (K × E)} {g : Tree K E → Tree K E}
    {ix : Forest K E → Nat} (hleaf : ∀ p es, g (.leaf p es) = .leaf p (φ es))
    (hbranch : ∀ p kids, g (.branch p kids) = .branch p (kids.mapAt g (ix kids))) (t : Tree K E) :
    (g t).emptied = t.emptied := by
  induction t using Tree.ind_toList with
  | leaf p es => simp only [hleaf, Tree.emptied_leaf]
  | branch p kids ih => simp only [hbranch, Tree.emptied_branch, Forest.emptied_mapAt _ kids _ ih]

section
variable {K E : Type} [Ord K] [DecidableEq K]

theorem Tree.emptied_put (key : K) (e : E) (t : Tree K E) : (t.put key e).emptied = t.emptied :=
  Tree.emptied_edit (fun _ _ => rfl) (put_branch_mapAt key e) t

theorem Tree.emptied_del (key : K) (t : Tree K E) : (t.del key).emptied = t.emptied :=
  Tree.emptied_edit (fun _ _ => rfl) (del_branch_mapAt key) t

theorem emptied_applyOp (t : Tree K E) (op : TxOp K E) : (t.applyOp op).emptied = t.emptied := by
  cases op with
  | put k e => exact Tree.emptied_put k e t
  | del k => exact Tree.emptied_del k t

theorem emptied_applyOps (ops : List (TxOp K E)) (t : Tree K E) :
    (ops.foldl Tree.applyOp t).emptied = t.emptied :=
  foldl_unchanged Tree.applyOp Tree.emptied ops (fun op _ t => emptied_applyOp t op) t

theorem refill_eq_applyOps (t : Tree K E) (items : List (K × E)) :
    t.refill items = (items.map fun x => TxOp.put x.1 x.2).foldl Tree.applyOp t.emptied := by
  rw [List.foldl_map]; rfl

end

section
variable {K E : Type} [Ord K] [TransOrd K] [LawfulEqOrd K] [DecidableEq K]

set_option linter.unusedSectionVars false in
theorem Forest.emptied_putAt (key : K) (e : E) :
    (f : Forest K E) → (i : Nat) → (Forest.putAt key e f i).emptied = f.emptied := fun f i => by
  rw [putAt_eq]; exact Forest.emptied_mapAt _ f i fun x _ => Tree.emptied_put key e x.2

set_option linter.unusedSectionVars false in
theorem Forest.emptied_delAt (key : K) :
    (f : Forest K E) → (i : Nat) → (Forest.delAt key f i).emptied = f.emptied := fun f i => by
  rw [delAt_eq]; exact Forest.emptied_mapAt _ f i fun x _ => Tree.emptied_del key x.2

end

theorem wf_emptied {K E : Type} [Ord K]
    (lo hi : Option K) (t : Tree K E) (h : WF lo hi t) : WF lo hi t.emptied := by
  refine (wf_induct (P := fun lo hi t => WF lo hi t.emptied)
    (Q := fun lo hi k t rest => WFF lo hi k t.emptied rest.emptied) ?_ ?_ ?_ ?_).1 lo hi t h
  · intro lo hi p es _ _
    exact WF.leaf _ _ _ _ trivial (fun e he => nomatch he)
  · intro lo hi p k t rest _ ih
    exact WF.branch _ _ _ _ _ _ ih
  · intro lo hi k t _ ih
    exact WFF.last _ _ _ _ ih
  · intro lo hi k t k' t' rest hk hlo' hhi' _ _ iht ihr
    exact WFF.cons _ _ _ _ _ _ _ hk hlo' hhi' iht ihr

section
variable {K E : Type} [Ord K]

mutual
/-- the branch structure of a tree with the entries of `l` put where the separators send them -/
def Tree.fill : Tree K E → List (K × E) → Tree K E
  | .leaf p _, l => .leaf p l
  | .branch p kids, l => .branch p (Forest.fill kids l)
def Forest.fill : Forest K E → List (K × E) → Forest K E
  | .nil, _ => .nil
  | .cons k t .nil, l => .cons k (t.fill l) .nil
  | .cons k t (.cons k' t' rest), l =>
    .cons k (t.fill (l.filter fun e => klt e.1 k')) (Forest.fill (.cons k' t' rest) (l.filter fun e => !klt e.1 k'))
end

variable (p : Nat) (es l : List (K × E)) (k k' : K) (t t' : Tree K E) (kids rest : Forest K E)

theorem Tree.fill_leaf : (Tree.leaf p es).fill l = .leaf p l := rfl

theorem Tree.fill_branch : (Tree.branch p kids).fill l = .branch p (kids.fill l) := rfl

theorem Forest.fill_last : (Forest.cons k t .nil).fill l = .cons k (t.fill l) .nil := rfl

/-- the next separator `k'` cuts the entries between the child before it and the rest -/
theorem Forest.fill_cons : (Forest.cons k t (.cons k' t' rest)).fill l =
    .cons k (t.fill (l.filter fun e => klt e.1 k')) ((Forest.cons k' t' rest).fill (l.filter fun e => !klt e.1 k')) := rfl

end

variable {K E : Type} [Ord K] [TransOrd K] [LawfulEqOrd K]

section
omit [LawfulEqOrd K]

theorem wf_fill_aux :
    (∀ (lo hi : Option K) (t : Tree K E), WF lo hi t → t.emptied.fill t.flatten = t) ∧
    (∀ (lo hi : Option K) (k : K) (t : Tree K E) (rest : Forest K E), WFF lo hi k t rest →
      (Forest.cons k t rest).emptied.fill (Tree.flattenF (.cons k t rest)) = .cons k t rest) := by
  apply wf_induct
  · intro lo hi p es _ _
    rw [flatten_leaf, Tree.emptied_leaf, Tree.fill_leaf]
  · intro lo hi p k t rest _ ih
    rw [flatten_branch, Tree.emptied_branch, Tree.fill_branch, ih]
  · intro lo hi k t _ ih
    rw [flattenF_cons, flattenF_nil, List.append_nil, Forest.emptied_cons, Forest.emptied_nil, Forest.fill_last, ih]
  · intro lo hi k t k' t' rest _ _ _ hwt hwr iht ihr
    -- the contents split at the separator `k'`: left of it the keys are below `k'`, right of it they are not
    have left : ∀ a ∈ t.flatten, klt a.1 k' = true := fun a ha => (flatten_bounds hwt a ha).2
    have right : ∀ a ∈ Tree.flattenF (.cons k' t' rest), klt a.1 k' = false := fun a ha => by
      have h2 : kle k' a.1 = true := (flattenF_bounds hwr a ha).1
      rw [kle_eq_not_klt] at h2
      simpa using h2
    rw [Forest.emptied_cons] at ihr
    rw [flattenF_cons k t, Forest.emptied_cons, Forest.emptied_cons, Forest.fill_cons, filter_append_eq_left left right,
      filter_append_eq_right (p := fun e : K × E => !klt e.1 k') (fun a ha => by simp [left a ha])
        (fun a ha => by simp [right a ha]),
      iht, ihr]

theorem wf_fill {lo hi : Option K} {t : Tree K E} (h : WF lo hi t) : t.emptied.fill t.flatten = t :=
  wf_fill_aux.1 lo hi t h

theorem wf_unique (lo hi : Option K) (s t : Tree K E) (hs : WF lo hi s) (ht : WF lo hi t)
    (he : s.emptied = t.emptied) (hf : s.flatten = t.flatten) : s = t := by
  rw [← wf_fill hs, ← wf_fill ht, he, hf]

end

variable [DecidableEq K]

theorem refill_of_same_structure (t r : Tree K E) (hr : WF none none r)
    (he : r.emptied = t.emptied) : t.refill r.flatten = r := by
  rw [refill_eq_applyOps, ← he]
  obtain ⟨h1, h2⟩ := applyOps_spec r.emptied (wf_emptied none none r hr) (r.flatten.map fun x => TxOp.put x.1 x.2)
  apply wf_unique none none _ _ h2 hr
  · rw [emptied_applyOps, Tree.emptied_emptied]
  · rw [h1, Tree.flatten_emptied, List.foldl_map]
    exact foldl_insert_eq_append r.flatten [] (flatten_sorted none none r hr)

theorem refill_flatten (t : Tree K E) (h : WF none none t) : t.refill t.flatten = t :=
  refill_of_same_structure t t h rfl

/-- for every sequence of edits, the overlay predicted from the committed tree and the final contents
is the tree the edits produce one by one (property C07) -/
theorem refill_eq_edits (t0 : Tree K E) (h : WF none none t0) (ops : List (TxOp K E)) :
    t0.refill (ops.foldl Tree.applyOp t0).flatten = ops.foldl Tree.applyOp t0 :=
  refill_of_same_structure t0 _ (applyOps_spec t0 h ops).2 (emptied_applyOps ops t0)

end Jamm
