/-
End to end at the level of file bytes (close / reopen is `openFile`, a function of the bytes alone, so only the final
one is stated): a history of transactions, each a list of write operations followed by a copy-on-write commit
(`Commits` step), where each commit stores a database whose logical contents (`TDB.abs ∘ viewToTDB`: every bucket path with its counter and its entries in order) are the
reference's contents after the transaction's operations.  Then `open` of the final file — header choice, walk from
the root page, free-list page — shows a database whose logical contents are the reference's after ALL operations of
the history, in order.  The per-commit premise (the stored database is the reference's next state) is what
`whole_history_refines` proves of the commit model and what the run compares on every real commit (contents of the
decoded file against the specification); this theorem is the composition with the byte-level layer.
-/
import Jamm.Proofs.CommitFileAtomic
import Jamm.Model.FileDB
namespace Jamm

section
variable (L : Layout) (order : List MetaField) (pagesize : Nat)

/-- bucket path ↦ (counter, entries in key order) -/
def Opened.contents (st : Opened) : Spec.DB Bytes Bytes := TDB.abs (viewToTDB [] st.view)

inductive TxHistory : Src → Nat → Opened → (Nat → Nat) → List (TDB.Op Bytes Bytes) →
    Src → Nat → Opened → (Nat → Nat) → Prop where
  | refl (s : Src) (slot : Nat) (st : Opened) (ov : Nat → Nat) : TxHistory s slot st ov [] s slot st ov
  | step {s : Src} {slot : Nat} {st : Opened} {ov : Nat → Nat} {acc : List (TDB.Op Bytes Bytes)} {s' : Src}
      {slot' : Nat} {st' : Opened} {ov' : Nat → Nat} (ops : List (TDB.Op Bytes Bytes)) (s1 : Src) (new : Opened)
      (ov'' : Nat → Nat) :
      TxHistory s slot st ov acc s' slot' st' ov' →
      KeepsState pagesize ov' s' s1 slot' st' →
      StoredV L pagesize ov'' s1 new.view →
      (∃ p, decodePage L s1 pagesize new.hdr.freelistPage = .ok p ∧ p.body = .freelist new.free ∧
        p.overflow = new.flOverflow) →
      HeaderOK L order pagesize ov'' s1 st' new →
      new.contents = ops.foldl Spec.applyTOp st'.contents →
      TxHistory s slot st ov (acc ++ ops) (writeMetaPage L pagesize (1 - slot') new.hdr s1) (1 - slot') new ov''

theorem TxHistory.commits {s : Src} {slot : Nat} {st : Opened} {ov : Nat → Nat} {acc : List (TDB.Op Bytes Bytes)}
    {s' : Src} {slot' : Nat} {st' : Opened} {ov' : Nat → Nat}
    (h : TxHistory L order pagesize s slot st ov acc s' slot' st' ov') :
    Commits L order pagesize s slot st ov s' slot' st' ov' := by
  induction h with
  | refl => exact Commits.refl _ _ _ _
  | step ops s1 new ov'' _ hk hst hfl hh _ ih => exact Commits.step s1 new ov'' ih hk hst hfl hh

variable {L order pagesize} in
theorem TxHistory.contents_eq {s : Src} {slot : Nat} {st : Opened} {ov : Nat → Nat}
    {acc : List (TDB.Op Bytes Bytes)} {s' : Src} {slot' : Nat} {st' : Opened} {ov' : Nat → Nat}
    (h : TxHistory L order pagesize s slot st ov acc s' slot' st' ov') :
    st'.contents = acc.foldl Spec.applyTOp st.contents := by
  induction h with
  | refl => rfl
  | step ops s1 new ov'' _ _ _ _ _ hc ih => rw [hc, ih, List.foldl_append]

/-- C01 `history_then_open_shows_reference_contents` is this at the generated layout -/
theorem history_then_open (hE : L.WFEnc = true) (hL : L.WFMeta = true) (hrec : L.pgPtr + L.metaSize ≤ pagesize)
    (hhdr : L.pageSize ≤ pagesize) {s : Src} {slot : Nat} {st : Opened} {ov : Nat → Nat}
    {acc : List (TDB.Op Bytes Bytes)} {s' : Src} {slot' : Nat} {st' : Opened} {ov' : Nat → Nat}
    (hslot : slot = 0 ∨ slot = 1) (h0 : Committed L order pagesize ov s slot st)
    (h : TxHistory L order pagesize s slot st ov acc s' slot' st' ov') (fuel : Nat) (hf : st'.view.weight ≤ fuel) :
    ∃ o, openFile L order pagesize fuel s' = some o ∧
      o.contents = acc.foldl Spec.applyTOp st.contents := by
  obtain ⟨_, _, hopen⟩ := commits_stay_committed L order pagesize hE hL hrec hhdr hslot h0 (h.commits L order pagesize)
  exact ⟨st', hopen fuel hf, h.contents_eq⟩

end
end Jamm
