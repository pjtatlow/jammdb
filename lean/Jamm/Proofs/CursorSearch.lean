/-
Where `searchT` lands on a well-formed tree, read in the specification's terms (`Spec.SeekOk` of the sorted contents):
`search_spec` (the landing stack), `Spec.SeekOk.of_leaf` (the landing leaf), `seek_seekOk` (the cursor after `seek`); the
range proofs consume the last.
-/
import Jamm.Proofs.CursorBasic
import Jamm.Proofs.TreeWF
open Std

namespace Jamm
variable {K E : Type} [Ord K]

theorem WF.shape {lo hi : Option K} {t : Tree K E} (h : WF lo hi t) : Shape t :=
  (wf_induct (P := fun _ _ t => Shape t) (Q := fun _ _ _ t rest => Shape t ∧ ShapeF rest)
    (fun _ _ p es _ _ => .leaf p es) (fun _ _ p k t rest _ ih => .branch p k t rest ih.1 ih.2)
    (fun _ _ _ _ _ ih => ⟨ih, .nil⟩)
    (fun _ _ _ _ k' t' rest _ _ _ _ _ iht ihr => ⟨iht, .cons k' t' rest ihr.1 ihr.2⟩)).1 lo hi t h

theorem WF.shp {lo hi : Option K} {t : Tree K E} (h : WF lo hi t) : Shp t := h.shape.shp

theorem searchF_eq (key : K) (kids : Forest K E) (i : Nat) (acc : Stack K E) :
    searchF key kids i acc = match kids.get? i with
      | some (_, t) => searchT key t acc
      | none => (false, acc) :=
  Forest.eq_of_get? (F := fun f i => searchF key f i acc) (fun _ => rfl) (fun _ _ _ => rfl) (fun _ _ _ _ => rfl) kids i

theorem Cursor.seek_eq (c : Cursor K E) (key : K) :
    c.seek key = ((searchT key c.root []).1,
      { c with stack := (skipEmpty (c.root.nodes + 1) (searchT key c.root []).2).2, nextCalled := false }) := rfl

variable [TransOrd K] [LawfulEqOrd K]

/-- The `+ 1` in the last conjunct is the landing leaf (fuel for `skipEmpty`). -/
theorem search_spec (key : K) (lo hi : Option K) (t : Tree K E) (h : WF lo hi t) (acc : Stack K E)
    (hacc : RestOk acc) :
    ∃ (pre es post : List (K × E)) (p : Nat) (s' : Stack K E),
      searchT key t acc = ((indexOf (es.map (·.1)) key).2, ⟨.leaf p es, (indexOf (es.map (·.1)) key).1⟩ :: s') ∧
      RestOk s' ∧ Spec.Sorted es ∧ t.flatten = pre ++ (es ++ post) ∧ after s' = post ++ after acc ∧
      (∀ e ∈ pre, klt e.1 key = true) ∧ (∀ e ∈ post, klt key e.1 = true) ∧
      todo s' + 1 ≤ t.nodes + todo acc := by
  induction t using Tree.ind_toList generalizing lo hi acc with
  | leaf p es =>
    refine ⟨[], es, [], p, acc, rfl, hacc, (WF.leaf_iff.mp h).1, ?_, ?_, ?_, ?_, ?_⟩
    · rw [flatten_leaf, List.nil_append, List.append_nil]
    · rfl
    · exact fun _ he => nomatch he
    · exact fun _ he => nomatch he
    · simp only [Tree.nodes]; omega
  | branch p kids ih =>
    -- going down, `pre` collects the children left of the route (`kids.take i`), `post` those right of it
    -- (`kids.drop (i + 1)`); the pushed frame's `after` is exactly that right part (`after_branch_cons`), and
    -- `WF.route` says the left part is below `key`, the right part above
    obtain ⟨k, t, lo', hi', r⟩ := h.route key
    obtain ⟨pre, es, post, q, s', hland, hrest, hsorted, hflat, hafter, hpre, hpost, htodo⟩ :=
      ih _ (Forest.mem_toList_of_get? _ _ _ _ r.get) _ _ r.wf (⟨.branch p kids, (indexOf kids.keys key).1⟩ :: acc)
        (RestOk.push h.shp _ hacc)
    rw [searchT, searchF_eq, r.get]
    refine ⟨Tree.flattenF (kids.take (indexOf kids.keys key).1) ++ pre, es,
      post ++ Tree.flattenF (kids.drop ((indexOf kids.keys key).1 + 1)), q, s', hland, hrest, hsorted, ?_, ?_, ?_, ?_, ?_⟩
    · rw [flatten_branch, Forest.flattenF_of_get? _ _ _ _ r.get, hflat]
      simp only [List.append_assoc]
    · rw [hafter, after_branch_cons, List.append_assoc]
    · exact fun e he => (List.mem_append.mp he).elim (r.left e) (hpre e)
    · exact fun e he => (List.mem_append.mp he).elim (hpost e) (r.right e)
    · have := Forest.nodesF_of_get? _ _ _ _ r.get
      simp only [todo_branch_cons] at htodo
      simp only [Tree.nodes]
      omega

variable [DecidableEq K]

/-- Where `indexOf` lands in a leaf, in the specification's terms; `pre` and `post` are the contents of the tree left
and right of the leaf.  `indexOf` gives the slot before an absent key, so the iteration then starts at the last entry
below `key` if the leaf has one: the second alternative of `Spec.SeekOk`. -/
theorem Spec.SeekOk.of_leaf (key : K) (pre es post : List (K × E)) (hs : Spec.Sorted es)
    (hpre : ∀ e ∈ pre, klt e.1 key = true) (hpost : ∀ e ∈ post, klt key e.1 = true) :
    Spec.SeekOk (pre ++ (es ++ post)) key (indexOf (es.map (·.1)) key).2
      (es.drop (indexOf (es.map (·.1)) key).1 ++ post) := by
  obtain ⟨tw, dw, hes, htw, hhead, hcount⟩ := split_at_countBelow key es
  have hget : (es.map (·.1))[tw.length]? = (dw.head?).map (·.1) := by
    rw [hes]; cases dw <;> simp
  -- the whole contents split at `key` between `tw` and `dw`: that fixes `fromKey`, `predOf` and `lookup` once
  have hflat : pre ++ (es ++ post) = (pre ++ tw) ++ (dw ++ post) := by
    rw [hes]; simp
  have hA : ∀ a ∈ pre ++ tw, klt a.1 key = true := List.forall_mem_append.mpr ⟨hpre, htw⟩
  have hB : ∀ b ∈ (dw ++ post).head?, klt b.1 key = false := fun b hb => by
    cases dw with
    | nil => exact klt_asymm (hpost b (List.mem_of_mem_head? hb))
    | cons d dw' => cases hb; exact hhead _ _ rfl
  have hlook : Spec.lookup key (pre ++ (es ++ post)) = Spec.lookup key dw := by
    rw [hflat, Spec.lookup_append_of_lt hA, Spec.lookup_append_of_gt hpost]
  have hfrom : Spec.fromKey (pre ++ (es ++ post)) key = dw ++ post := by
    rw [hflat, Spec.fromKey_append hA hB]
  have habsent : Spec.lookup key dw = none →
      Spec.SeekOk (pre ++ (es ++ post)) key false (es.drop (tw.length - 1) ++ post) := fun hl => by
    refine ⟨by rw [hlook, hl]; rfl, ?_⟩
    rw [hfrom]
    rcases List.eq_nil_or_concat tw with he | ⟨A', p, he⟩
    · subst he
      exact .inl (by rw [hes]; rfl)
    · rw [List.concat_eq_append] at he
      subst he
      exact .inr ⟨rfl, p, by rw [hflat, Spec.predOf_append hA hB]; simp, by rw [hes]; simp⟩
  rw [indexOf_def, hcount, hget]
  cases dw with
  | nil => exact habsent rfl
  | cons d dw' =>
    simp only [List.head?_cons, Option.map_some]
    by_cases hc : compare d.1 key = .eq
    · simp only [hc, beq_self_eq_true, if_true]
      refine ⟨?_, .inl (by rw [hfrom, hes, List.drop_left])⟩
      obtain ⟨dk, dx⟩ := d
      obtain rfl : dk = key := compare_eq_iff_eq.mp hc
      rw [hlook, Spec.lookup_cons_self]; rfl
    · have hc' : (compare d.1 key == Ordering.eq) = false := by simpa using hc
      rw [hc', if_neg Bool.false_ne_true]
      have hgt : klt key d.1 = true :=
        klt_of_not_klt_of_ne (hhead d dw' rfl) fun e => hc (compare_eq_iff_eq.mpr e)
      have hsd : Spec.Sorted (d :: dw') := by rw [hes] at hs; exact (Spec.sorted_append_iff.mp hs).2.1
      refine habsent (Spec.lookup_none_of_gt fun b hb => ?_)
      rcases List.mem_cons.mp hb with rfl | hb
      · exact hgt
      · exact klt_trans hgt ((Spec.sorted_cons.mp hsd).1 b hb)

/-- The last conjunct is the fuel bound `seek_spec` needs for draining; the second is what `Range::next` reads to decide
whether to skip the entry the seek landed on.  Stated of a variable `r` so that it applies to the `let` of `seek_spec`. -/
theorem seek_seekOk (t : Tree K E) (h : WF none none t) (key : K) (r : Bool × Cursor K E)
    (hr : r = Cursor.seek { root := t } key) :
    CInv t r.2 ∧ current r.2.stack = (pending r.2).head? ∧ Spec.SeekOk t.flatten key r.1 (pending r.2) ∧
      (pending r.2).length ≤ t.flatten.length := by
  obtain ⟨pre, es, post, p, s', hland, hrest, hsorted, hflat, hafter, hpre, hpost, htodo⟩ :=
    search_spec key none none t h [] RestOk.nil
  rw [Cursor.seek_eq, hland] at hr
  subst hr
  have htop : OnLeaf (⟨.leaf p es, (indexOf (es.map (·.1)) key).1⟩ :: s') := by
    refine OnLeaf.leaf ?_ hrest
    cases es with
    | nil => exact Or.inl rfl
    | cons e0 es => exact Or.inr (by simpa using indexOf_lt ((e0 :: es).map (·.1)) key (by simp))
  rw [todo_nil] at htodo
  rw [after_nil, List.append_nil] at hafter
  obtain ⟨a, b, c⟩ := skipEmpty_cursor_spec t _ htop (by rw [todo_leaf_cons]; omega)
  rw [b, remaining_leaf, hafter, hflat]
  exact ⟨a, by rw [c, remaining_leaf, hafter], Spec.SeekOk.of_leaf key pre es post hsorted hpre hpost,
    (((List.drop_sublist _ es).append_right post).trans (List.sublist_append_right pre _)).length_le⟩

theorem seek_spec (t : Tree K E) (h : WF none none t) (key : K) (n : Nat) (hn : t.flatten.length < n) :
    let r := Cursor.seek { root := t } key
    Spec.SeekOk t.flatten key r.1 (Cursor.drain n r.2).1 := by
  intro r
  obtain ⟨hc, _, hok, hlen⟩ := seek_seekOk t h key r rfl
  rw [(drain_spec t n r.2 hc (Nat.lt_of_le_of_lt hlen hn)).1]
  exact hok

end Jamm
