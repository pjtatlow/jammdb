/-
Layer T: any sequence of leaf edits inside a write transaction, applied to a well-formed tree, is
the same sequence of map operations applied to the tree's contents, and keeps it well-formed (`applyOps_spec`).
-/
import Jamm.Proofs.TreeWF
open Std

namespace Jamm
variable {K E : Type} [Ord K] [TransOrd K] [LawfulEqOrd K] [DecidableEq K]

/-- the edits a write transaction performs on one bucket before commit -/
inductive TxOp (K E : Type) where
  | put (k : K) (e : E)
  | del (k : K)

def Tree.applyOp (t : Tree K E) : TxOp K E → Tree K E
  | .put k e => t.put k e
  | .del k => t.del k

def Spec.applyOp (l : List (K × E)) : TxOp K E → List (K × E)
  | .put k e => Spec.insert k e l
  | .del k => Spec.erase k l

theorem applyOp_spec (t : Tree K E) (h : WF none none t) (op : TxOp K E) :
    (t.applyOp op).flatten = Spec.applyOp t.flatten op ∧ WF none none (t.applyOp op) := by
  cases op with
  | put k e => exact put_spec none none t h k e trivial trivial
  | del k => exact del_spec none none t h k trivial trivial

theorem applyOps_spec (t : Tree K E) (h : WF none none t) (ops : List (TxOp K E)) :
    (ops.foldl Tree.applyOp t).flatten = ops.foldl Spec.applyOp t.flatten ∧
    WF none none (ops.foldl Tree.applyOp t) := by
  induction ops generalizing t with
  | nil => exact ⟨rfl, h⟩
  | cons op rest ih =>
    have h1 := applyOp_spec t h op
    have h2 := ih (t.applyOp op) h1.2
    simp only [List.foldl_cons]
    rw [← h1.1]
    exact h2

end Jamm
