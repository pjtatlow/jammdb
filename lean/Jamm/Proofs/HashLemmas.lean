/-
The header checksum.  Each FNV-1a step `h ↦ (h ⊕ b)·p` is injective in `h` and in `b`
(the prime is odd, hence invertible mod 2^64), so two hash inputs of equal length that differ in
exactly one byte have different checksums; a header record with one damaged hashed byte is invalid.
-/
import Jamm.Model.Codec

namespace Jamm

def fnvPrimeInv : UInt64 := 0xce965057aff6957b

theorem fnvPrime_mul_inv : fnvPrime * fnvPrimeInv = 1 := by decide

theorem mul_fnvPrime_cancel (a b : UInt64) (e : a * fnvPrime = b * fnvPrime) : a = b := by
  have h := congrArg (· * fnvPrimeInv) e
  simp only [UInt64.mul_assoc, fnvPrime_mul_inv, UInt64.mul_one] at h
  exact h

theorem fnvStep_inj_left (h h' : UInt64) (b : UInt8) (e : fnvStep h b = fnvStep h' b) : h = h' :=
  (UInt64.xor_left_inj _).1 (mul_fnvPrime_cancel _ _ e)

theorem fnvStep_inj_right (h : UInt64) (b b' : UInt8) (e : fnvStep h b = fnvStep h b') : b = b' :=
  UInt8.toUInt64_inj.1 ((UInt64.xor_right_inj _).1 (mul_fnvPrime_cancel _ _ e))

theorem foldl_fnvStep_ne (post : List UInt8) : ∀ (h h' : UInt64), h ≠ h' →
    post.foldl fnvStep h ≠ post.foldl fnvStep h' := by
  induction post with
  | nil => intro h h' hne; exact hne
  | cons c rest ih =>
    intro h h' hne
    simp only [List.foldl_cons]
    exact ih _ _ (fun e => hne (fnvStep_inj_left h h' c e))

theorem fnv_single_byte (pre post : List UInt8) (b b' : UInt8) (hne : b ≠ b') :
    fnv1a (pre ++ b :: post) ≠ fnv1a (pre ++ b' :: post) := by
  unfold fnv1a
  simp only [List.foldl_append, List.foldl_cons]
  exact foldl_fnvStep_ne post _ _ (fun e => hne (fnvStep_inj_right _ b b' e))

theorem metaValid_iff (L : Layout) (order : List MetaField) (m : MetaRec) :
    metaValid L order m = true ↔ m.hash = metaHash L order m := by
  rw [metaValid, beq_iff_eq]

theorem metaValid_eq_false_iff (L : Layout) (order : List MetaField) (m : MetaRec) :
    metaValid L order m = false ↔ m.hash ≠ metaHash L order m := by
  rw [metaValid, beq_eq_false_iff_ne]

theorem one_hashed_byte_invalidates (L : Layout) (order : List MetaField) (m m' : MetaRec)
    (hv : metaValid L order m = true) (hh : m'.hash = m.hash)
    (pre post : List UInt8) (b b' : UInt8) (hne : b ≠ b')
    (h1 : metaHashInput L order m = pre ++ b :: post) (h2 : metaHashInput L order m' = pre ++ b' :: post) :
    metaValid L order m' = false := by
  rw [metaValid_iff, metaHash, h1] at hv
  rw [metaValid_eq_false_iff, metaHash, h2, hh, hv]
  exact fun e => fnv_single_byte pre post b b' hne (UInt64.toNat_inj.1 e)

theorem damaged_checksum_invalidates (L : Layout) (order : List MetaField) (m m' : MetaRec)
    (hv : metaValid L order m = true) (hne : m'.hash ≠ m.hash)
    (hf : metaHashInput L order m' = metaHashInput L order m) :
    metaValid L order m' = false := by
  rw [metaValid_iff] at hv
  rw [metaValid_eq_false_iff, metaHash, hf, ← metaHash, ← hv]
  exact hne

end Jamm
