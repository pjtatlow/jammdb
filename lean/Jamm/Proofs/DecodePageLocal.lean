/-
Locality of the page decoder: `decodePage` of a page that is not a header page reads only bytes of the page's own run
(and the file size), so a source that agrees with another one on that run (`Src.AgreeOn`) decodes to the same page
(`decodePage_congr`; as a `ReadsRuns` statement: `decodePage_reads`).
-/
import Jamm.Proofs.EncodeLemmas
import Jamm.Proofs.Runs

namespace Jamm

section
variable {L : Layout}

theorem decodeBranchElems_congr (W : L.WF) (s s' : Src) (base runEnd : Nat)
    (h : Src.AgreeOn s s' base runEnd) : ∀ (n i : Nat),
    decodeBranchElems L s' base runEnd n i = decodeBranchElems L s base runEnd n i := by
  intro n
  induction n with
  | zero => intro i; rfl
  | succ n ih =>
    intro i
    rw [decodeBranchElems, decodeBranchElems]
    -- `e` is the start of the element record; everything the step reads lies in `[e, runEnd)`
    generalize he : base + L.pgPtr + i * L.branchSize = e
    have hE : Src.AgreeOn s s' e runEnd :=
      h.mono (he ▸ Nat.le_add_right_of_le (Nat.le_add_right _ _)) (Nat.le_refl _)
    by_cases hrec : e + L.branchSize > runEnd
    · rw [if_pos hrec, if_pos hrec]
    · -- the fields are rewritten while each occurs once per side, before `simp only []` puts the `have`s of the decoder
      -- in place
      have F := branchRec_agree W hE (Nat.le_of_not_gt hrec)
      rw [if_neg hrec, if_neg hrec, F.1, F.2.1, F.2.2]
      generalize s.le (e + L.branchKsize) 8 = ks
      generalize s.le (e + L.branchPos) 8 = pos
      by_cases hend : e + pos + ks > runEnd
      · rw [if_pos hend, if_pos hend]
      · rw [if_neg hend, if_neg hend, ih (i + 1), hE.bytes (e + pos) ks (Nat.le_add_right _ _) (Nat.le_of_not_gt hend)]

theorem decodeLeafElems_congr (W : L.WF) (s s' : Src) (base runEnd : Nat)
    (h : Src.AgreeOn s s' base runEnd) : ∀ (n i : Nat),
    decodeLeafElems L s' base runEnd n i = decodeLeafElems L s base runEnd n i := by
  intro n
  induction n with
  | zero => intro i; rfl
  | succ n ih =>
    intro i
    rw [decodeLeafElems, decodeLeafElems]
    generalize he : base + L.pgPtr + i * L.leafSize = e
    have hE : Src.AgreeOn s s' e runEnd :=
      h.mono (he ▸ Nat.le_add_right_of_le (Nat.le_add_right _ _)) (Nat.le_refl _)
    by_cases hrec : e + L.leafSize > runEnd
    · rw [if_pos hrec, if_pos hrec]
    · have F := leafRec_agree W hE (Nat.le_of_not_gt hrec)
      rw [if_neg hrec, if_neg hrec, F.1, F.2.1, F.2.2.1, F.2.2.2]
      generalize s.le (e + L.leafPos) 8 = pos
      generalize s.le (e + L.leafKsize) 8 = ks
      generalize s.le (e + L.leafVsize) 8 = vs
      by_cases hend : e + pos + ks + vs > runEnd
      · rw [if_pos hend, if_pos hend]
      · have hlo : e ≤ e + pos + ks := Nat.le_add_right_of_le (Nat.le_add_right _ _)
        have hend' : e + pos + ks + vs ≤ runEnd := Nat.le_of_not_gt hend
        rw [if_neg hend, if_neg hend, ih (i + 1),
          hE.bytes (e + pos) ks (Nat.le_add_right _ _) (Nat.le_trans (Nat.le_add_right _ _) hend'),
          hE.bytes (e + pos + ks) vs hlo hend']
        by_cases hvs : vs = L.bmSize
        · -- the two fields of a nested-bucket header lie inside the value
          have hV : Src.AgreeOn s s' (e + pos + ks) (e + pos + ks + L.bmSize) := hE.mono hlo (hvs ▸ hend')
          rw [hV.le_off L.bmRoot 8 (Nat.add_le_add_left (Nat.le_trans W.bm1 (Nat.le_of_add_right_le W.bm2)) _),
            hV.le_off L.bmNextInt 8 (Nat.add_le_add_left W.bm2 _)]
        · simp only [if_neg hvs]

/-- a META tag forces a header record as body: used to exclude header pages in `decodePage_reads` -/
theorem decodePage_ok (s : Src) (pagesize pid : Nat) (p : LPage) (h : decodePage L s pagesize pid = .ok p) :
    p.overflow = s.le (pid * pagesize + L.pgOverflow) 8 ∧
    ((s.get (pid * pagesize + L.pgType)).toNat = L.typeMeta → p.body = .hdr (readMeta L s (pid * pagesize))) := by
  unfold decodePage at h
  -- the branches of `decodePage` in order, one test at a time (`split at h` on the whole chain is slow to check)
  by_cases h0 : pid * pagesize + L.pageSize > s.size
  · rw [if_pos h0] at h; cases h
  rw [if_neg h0] at h
  by_cases h1 : (s.get (pid * pagesize + L.pgType)).toNat = L.typeMeta
  · rw [if_pos h1] at h
    rw [← Except.ok.inj h]
    exact ⟨rfl, fun _ => rfl⟩
  rw [if_neg h1] at h
  refine ⟨?_, fun e => absurd e h1⟩
  by_cases h2 : pid * pagesize + (s.le (pid * pagesize + L.pgOverflow) 8 + 1) * pagesize > s.size
  · rw [if_pos h2] at h; cases h
  rw [if_neg h2] at h
  by_cases h3 : (s.get (pid * pagesize + L.pgType)).toNat = L.typeBranch
  · rw [if_pos h3] at h
    generalize decodeBranchElems _ _ _ _ _ _ = r at h
    cases r
    · cases h
    · rw [← Except.ok.inj h]
  rw [if_neg h3] at h
  by_cases h4 : (s.get (pid * pagesize + L.pgType)).toNat = L.typeLeaf
  · rw [if_pos h4] at h
    generalize decodeLeafElems _ _ _ _ _ _ = r at h
    cases r
    · cases h
    · rw [← Except.ok.inj h]
  rw [if_neg h4] at h
  split at h
  · split at h
    · cases h
    · rw [← Except.ok.inj h]
  · rw [← Except.ok.inj h]

/-- header pages are excluded: `readMeta` is not bounds-checked against the run; for them see `slotValid_agree` -/
theorem decodePage_congr (W : L.WF) (s s' : Src) (pagesize pid : Nat) (hhdr : L.pageSize ≤ pagesize)
    (hsz : s'.size = s.size)
    (hty : (s.get (pid * pagesize + L.pgType)).toNat ≠ L.typeMeta)
    (hag : Src.AgreeOn s s' (pid * pagesize)
      (pid * pagesize + (s.le (pid * pagesize + L.pgOverflow) 8 + 1) * pagesize)) :
    decodePage L s' pagesize pid = decodePage L s pagesize pid := by
  unfold decodePage
  -- every read of `decodePage` lies in the run: the four header fields (`header_agree`; inside the first page by `W.pg5`),
  -- the element loops by the two congruences, a free-list id `i < count` below the bound the decoder has just tested (`hfl`)
  generalize pid * pagesize = base at hty hag ⊢
  have F := header_agree L W.pg1 W.pg2 W.pg3 W.pg4 hag
    (Nat.add_le_add_left (Nat.le_trans (Nat.le_trans W.pg5 hhdr) (page_le_run _ _)) _)
  simp only [F.1, F.2.1, F.2.2.1, F.2.2.2, hsz, if_neg hty, decodeBranchElems_congr W s s' _ _ hag,
    decodeLeafElems_congr W s s' _ _ hag]
  generalize s.le (base + L.pgOverflow) 8 = ov at hag
  generalize s.le (base + L.pgCount) 8 = count
  by_cases hfl : base + L.pgPtr + 8 * count > base + (ov + 1) * pagesize
  · simp only [if_pos hfl]
  · have : (List.range count).map (fun i => s'.le (base + L.pgPtr + 8 * i) 8) =
        (List.range count).map (fun i => s.le (base + L.pgPtr + 8 * i) 8) := by
      apply List.map_congr_left
      intro i hi
      rw [List.mem_range] at hi
      exact hag.le _ 8 (Nat.le_add_right_of_le (Nat.le_add_right _ _))
        (Nat.le_trans (by omega : base + L.pgPtr + 8 * i + 8 ≤ base + L.pgPtr + 8 * count) (Nat.le_of_not_gt hfl))
    rw [this]

theorem decodePage_reads {pagesize : Nat} (W : L.WF) (hhdr : L.pageSize ≤ pagesize) (pid : Nat) (p : LPage)
    (hb : ∀ m, p.body ≠ .hdr m) :
    ReadsRuns pagesize [(pid, p.overflow)] (fun s => decodePage L s pagesize pid = .ok p) := by
  intro s s' hsz hag h
  -- a decoded page has the run its header names, and no META tag unless it is a header page
  obtain ⟨ho, hm⟩ := decodePage_ok s pagesize pid p h
  have hag := hag _ List.mem_cons_self
  rw [run_bytes, ho] at hag
  rw [decodePage_congr W s s' pagesize pid hhdr hsz (fun e => hb _ (hm e)) hag, h]

end
end Jamm
