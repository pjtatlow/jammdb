/-
What the allocator model guarantees about PAGES (`alloc_not_reach`, in Bool form `commit_is_cow`: a protocol-abiding
writer writes no page of the snapshot it started from) is the premise `KeepsState` of the byte-level crash theorems,
once page sets are read as byte ranges (`keepsState_of_page_writes`).
-/
import Jamm.Proofs.CommitFileLemmas
import Jamm.Proofs.FreelistSys
namespace Jamm

section
variable (pagesize : Nat)

/-- the `KeepsState` premise of `crash_shows_old`: a byte source that differs from the file only inside the pages a
protocol-abiding writer writes (`Sys.writes`: the runs first fit hands out) keeps every state whose runs are pages
reachable in the current snapshot.  `hc` is not used (as in `commit_is_cow`) -/
theorem allocator_writes_keep_state (hps : 0 < pagesize) (ov : Nat → Nat) (s s' : Src) (slot : Nat)
    (hslot : slot < 2) (old : Opened) (sys : Sys) (w : WriterTx) (hi : sys.invB = true)
    (hc : sys.clientOkB (.commitW w) = true)
    (hreach : ∀ r ∈ old.runs ov, ∀ d, d ≤ r.2 → r.1 + d ∈ sys.cur.reach)
    (hsz : s'.size = s.size)
    (hsame : ∀ i, i / pagesize ∉ sys.writes w → s'.get i = s.get i) :
    KeepsState pagesize ov s s' slot old := by
  have I := (invB_iff sys).1 hi
  exact keepsState_of_page_writes hps ov s s' slot (Nat.le_one_iff_eq_zero_or_eq_one.1 (Nat.le_of_lt_succ hslot)) old
    (sys.writes w) hsz hsame
    (fun _ hw => alloc_ge_two I sys.bound (sys.writes_eq w ▸ hw))
    (fun r hr d hd hin => alloc_not_reach I sys.bound (sys.writes_eq w ▸ hin) (hreach r hr d hd))

end
end Jamm
